import Dyce.PoolHModel
import Dyce.RollsWithCounts
import Dyce.HistProofs
import Mathlib.Algebra.BigOperators.Group.List.Basic
import Mathlib.Algebra.BigOperators.Fin

/-! `P.h(*which)`: the sum of the selected positions (`selSum`) characterised once, the
`h() * (i // n)` short-circuit, and the two paths of `poolH` as equations. -/
namespace Dyce
open List

section
variable {α : Type} [DecidableEq α]

theorem sumH_replicate (le : α → α → Bool) (zero : α) (add : α → α → α) (n : Nat) (h : Hist α) :
    sumH le zero add (List.replicate n h) = matmulH le zero add n h := rfl

/-- the sum of the selected positions of the sorted roll -/
def selSum (le : α → α → Bool) (zero : α) (add : α → α → α) (idxs : List Nat) (t : List α) : α :=
  sumRoll zero add (takeIdxs ((sortBy le t).map some) idxs)

theorem viaRolls_wsum {le : α → α → Bool} (zero : α) (add : α → α → α)
    (dice : List (Hist α)) (which : List Sel) (L : List (List (Option α) × Nat))
    (hL : rollsWithCounts le dice which = .ok L) :
    ∃ H, viaRolls le zero add dice which = .ok H ∧
      ∀ G, wsum H G = wsum L fun r => G (sumRoll zero add r) := by
  refine ⟨ofItems le (L.map fun e => (sumRoll zero add e.1, e.2)),
    by simp only [viaRolls, hL, bind, Except.bind, pure, Except.pure], fun G => ?_⟩
  rw [wsum_ofItems, wsum_map_fst]

/-- `P.h(*which)` for a non-empty `which` whose positions resolve: the `h() * (i // n)` short-circuit
when the analysis finds every die selected equally often -/
theorem poolH_cons_short {le : α → α → Bool} {zero : α} {add : α → α → α} {smul : Nat → α → α}
    {dice : List (Hist α)} {s : Sel} {ss : List Sel} {idxs : List Nat} {i : Int}
    (hres : resolve dice.length (s :: ss) = .ok idxs) (hi : analyze dice.length idxs = some i)
    (hs : i ≠ 0 ∧ i ≥ dice.length) :
    poolH le zero add smul dice (s :: ss)
      = .ok (umapH le (smul (i / dice.length).toNat) (sumH le zero add dice)) := by
  simp only [poolH, hres, hi, bind, Except.bind, pure, Except.pure, if_pos hs]

/-- `P.h(*which)` otherwise: the enumeration of rolls -/
theorem poolH_cons_via {le : α → α → Bool} {zero : α} {add : α → α → α} {smul : Nat → α → α}
    {dice : List (Hist α)} {s : Sel} {ss : List Sel} {idxs : List Nat}
    (hres : resolve dice.length (s :: ss) = .ok idxs)
    (hn : ∀ i, analyze dice.length idxs = some i → ¬ (i ≠ 0 ∧ i ≥ dice.length)) :
    poolH le zero add smul dice (s :: ss) = viaRolls le zero add dice (s :: ss) := by
  simp only [poolH, hres, bind, Except.bind, pure, Except.pure]
  cases hi : analyze dice.length idxs with
  | none => rfl
  | some i => exact if_neg (hn i hi)

theorem poolH_cons_error {le : α → α → Bool} {zero : α} {add : α → α → α} {smul : Nat → α → α}
    {dice : List (Hist α)} {s : Sel} {ss : List Sel} {e : PyErr}
    (hres : resolve dice.length (s :: ss) = .error e) :
    poolH le zero add smul dice (s :: ss) = .error e := by
  simp only [poolH, hres, bind, Except.bind]

end

section
variable {α : Type} [AddCommMonoid α]

theorem sumRoll_eq_sum (l : List (Option α)) :
    sumRoll (0 : α) (· + ·) l = (l.map fun o => o.getD 0).sum := by
  rw [List.sum_eq_foldl, List.foldl_map, sumRoll]
  congr 1
  funext acc o
  cases o <;> simp

theorem sum_getD_uniform {s : List α} (idxs : List Nat) (c : Nat)
    (hlt : ∀ j ∈ idxs, j < s.length) (hc : ∀ p, p < s.length → idxs.count p = c) :
    (idxs.map fun j => s[j]?.getD 0).sum = c • s.sum := by
  -- group the reads by position: `Σ_{j ∈ idxs} s[j] = Σ_{p < n} count(p) • s[p]`
  have hsub : idxs.toFinset ⊆ Finset.range s.length :=
    fun j hj => Finset.mem_range.mpr (hlt j (List.mem_toFinset.mp hj))
  rw [Finset.sum_list_map_count, Finset.sum_subset hsub fun p _ hp => by
    rw [List.count_eq_zero_of_not_mem (mt List.mem_toFinset.mpr hp), zero_nsmul]]
  rw [Finset.sum_congr rfl fun p hp => by rw [hc p (Finset.mem_range.mp hp)], Finset.sum_nsmul,
    Finset.sum_range, ← Fin.sum_univ_getElem]
  simp only [List.getElem?_eq_getElem, Fin.is_lt, Option.getD_some]

variable {le : α → α → Bool}

theorem selSum_eq_sum (idxs : List Nat) (t : List α) :
    selSum le 0 (· + ·) idxs t = (idxs.map fun j => (sortBy le t)[j]?.getD 0).sum := by
  rw [selSum, sumRoll_eq_sum, takeIdxs_eq_map_join, List.map_map]
  simp only [Function.comp_def, join_getElem?_map_some]

theorem selSum_perm (t : List α) {idxs₁ idxs₂ : List Nat} (hp : idxs₁ ~ idxs₂) :
    selSum le 0 (· + ·) idxs₁ t = selSum le 0 (· + ·) idxs₂ t := by
  rw [selSum_eq_sum, selSum_eq_sum]
  exact (hp.map _).sum_eq

theorem selSum_single (t : List α) (pos : Nat) :
    selSum le 0 (· + ·) [pos] t = (sortBy le t)[pos]?.getD 0 := by
  simp [selSum_eq_sum]

variable [DecidableEq α]

/-- the `h() * c` short-circuit: when every die is selected `c` times, `c` times the sum of the
dice is distributed as the sum of the selected positions -/
theorem wsum_smul_sumH (dice : List (Hist α)) (hne : dice ≠ []) (idxs : List Nat) (c : Nat)
    (hlt : ∀ j ∈ idxs, j < dice.length) (hc : ∀ p, p < dice.length → idxs.count p = c)
    (G : α → Nat) :
    wsum (umapH le (fun x => c • x) (sumH le 0 (· + ·) dice)) G
      = wsum (poolTuples dice) (fun t => G (selSum le 0 (· + ·) idxs t)) := by
  rw [wsum_umapH, wsum_sumH, if_neg hne]
  refine wsum_congr fun tw htw => ?_
  have hl := (sortBy_length le tw.1).trans (mem_poolTuples_length htw)
  rw [selSum_eq_sum, sum_getD_uniform idxs c (hl ▸ hlt) (hl ▸ hc), (sortBy_perm le tw.1).sum_eq,
    ← List.sum_eq_foldl]

theorem countOf_sumH_append (le : α → α → Bool) {d₁ d₂ : List (Hist α)} (h₁ : d₁ ≠ [])
    (h₂ : d₂ ≠ []) (z : α) :
    countOf z (sumH le 0 (· + ·) (d₁ ++ d₂))
      = countOf z (mapH le (· + ·) (sumH le 0 (· + ·) d₁) (sumH le 0 (· + ·) d₂)) := by
  rw [countOf, wsum_sumH, if_neg (List.append_ne_nil_of_left_ne_nil h₁ _), countOf_mapH, wsum_sumH,
    if_neg h₁, wsum_poolTuples_append]
  refine wsum_congr fun t₁ _ => ?_
  rw [wsum_sumH, if_neg h₂]
  refine wsum_congr fun t₂ _ => ?_
  simp only [← List.sum_eq_foldl, List.sum_append]

end

end Dyce
