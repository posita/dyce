import Dyce.SelectModel
import Mathlib.Data.List.Basic

/-! Selections.  What `_analyze_selection` returns, branch by branch, and what `rolls_with_counts`
and `P.h` rely on (`analyze_sound`, `analyze_window`); the positions that `getitems` resolves
integers and slices to lie inside the roll (`resolve_lt`). -/
namespace Dyce

/-- `js.foldl min j` is the least element of `j :: js` (core: it is `(j :: js).min?`) -/
theorem foldl_min_spec (j : Nat) (js : List Nat) :
    js.foldl min j ∈ j :: js ∧ ∀ x ∈ j :: js, js.foldl min j ≤ x :=
  List.min?_eq_some_iff.mp List.min?_cons'

/-- `js.foldl max j` is the greatest element of `j :: js` (core: it is `(j :: js).max?`) -/
theorem foldl_max_spec (j : Nat) (js : List Nat) :
    js.foldl max j ∈ j :: js ∧ ∀ x ∈ j :: js, x ≤ js.foldl max j :=
  List.max?_eq_some_iff.mp List.max?_cons'

theorem analyze_cons_span {n j : Nat} {js : List Nat}
    (hspan : js.foldl max j + 1 - js.foldl min j = n) :
    analyze n (j :: js) =
      match (List.range n).map fun p => (j :: js).count p with
      | [] => none
      | c :: cs => if c ≠ 0 ∧ cs.all (· == c) then some ((n * c : Nat) : Int) else none :=
  if_pos hspan

theorem analyze_cons_high {n j : Nat} {js : List Nat}
    (hspan : js.foldl max j + 1 - js.foldl min j ≠ n)
    (hhigh : js.foldl min j > n - (js.foldl max j + 1)) :
    analyze n (j :: js) = some (((js.foldl min j : Nat) : Int) - n) :=
  (if_neg hspan).trans (if_pos hhigh)

theorem analyze_cons_low {n j : Nat} {js : List Nat}
    (hspan : js.foldl max j + 1 - js.foldl min j ≠ n)
    (hlow : ¬ js.foldl min j > n - (js.foldl max j + 1)) :
    analyze n (j :: js) = some ((js.foldl max j + 1 : Nat) : Int) :=
  (if_neg hspan).trans (if_neg hlow)

theorem uniform_some {cnts : List Nat} {n : Nat} {i : Int}
    (h : (match cnts with
      | [] => none
      | c :: cs => if c ≠ 0 ∧ cs.all (· == c) then some ((n * c : Nat) : Int) else none)
        = some i) :
    ∃ c, c ≠ 0 ∧ i = ((n * c : Nat) : Int) ∧ ∀ x ∈ cnts, x = c := by
  cases cnts with
  | nil => cases h
  | cons c cs =>
    simp only at h
    split at h
    · rename_i hc
      refine ⟨c, hc.1, (Option.some.inj h).symm, ?_⟩
      intro x hx
      rcases List.mem_cons.mp hx with rfl | hx
      · rfl
      · exact beq_iff_eq.mp (List.all_eq_true.mp hc.2 x hx)
    · cases h

/-- what `_analyze_selection` promises, as used by `rolls_with_counts` and `P.h` -/
theorem analyze_sound (n : Nat) (idxs : List Nat) (hlt : ∀ j ∈ idxs, j < n) (i : Int)
    (h : analyze n idxs = some i) :
    (i = 0 → idxs = []) ∧
    (0 < i → i < n → ∀ j ∈ idxs, (j : Int) < i) ∧
    (i < 0 → ∀ j ∈ idxs, (n : Int) + i ≤ j) ∧
    ((n : Int) ≤ i → idxs ≠ [] → ∃ c : Nat, c ≠ 0 ∧ i = ((n * c : Nat) : Int) ∧
        ∀ p, p < n → idxs.count p = c) := by
  cases idxs with
  | nil =>
    obtain rfl : 0 = i := Option.some.inj h
    exact ⟨fun _ => rfl,
      fun _ _ _ hj => (List.not_mem_nil hj).elim,
      fun _ _ hj => (List.not_mem_nil hj).elim, fun _ hne => absurd rfl hne⟩
  | cons j js =>
    obtain ⟨hmnm, hmn⟩ := foldl_min_spec j js
    obtain ⟨hmxm, hmx⟩ := foldl_max_spec j js
    have hmxlt : js.foldl max j < n := hlt _ hmxm
    have hmnmx : js.foldl min j ≤ js.foldl max j := hmn _ hmxm
    by_cases hspan : js.foldl max j + 1 - js.foldl min j = n
    · rw [analyze_cons_span hspan] at h
      obtain ⟨c, hc0, rfl, hc⟩ := uniform_some h
      have hcnt : ∀ p, p < n → (j :: js).count p = c := fun p hp =>
        hc _ (List.mem_map_of_mem (List.mem_range.mpr hp))
      have hnc : n ≤ n * c := Nat.le_mul_of_pos_right n (Nat.pos_of_ne_zero hc0)
      have hn0 : 0 < n := Nat.zero_lt_of_lt hmxlt
      exact ⟨fun h0 => absurd (Int.natCast_eq_zero.mp h0) (Nat.ne_of_gt (Nat.lt_of_lt_of_le hn0 hnc)),
        fun _ hlt' => absurd (Int.ofNat_lt.mp hlt') (Nat.not_lt.mpr hnc),
        fun hneg => absurd hneg (Int.not_lt.mpr (Int.natCast_nonneg _)),
        fun _ _ => ⟨c, hc0, rfl, hcnt⟩⟩
    · by_cases hhigh : js.foldl min j > n - (js.foldl max j + 1)
      · rw [analyze_cons_high hspan hhigh] at h
        obtain rfl := Option.some.inj h
        have hi : ((js.foldl min j : Nat) : Int) - n < 0 :=
          Int.sub_neg_of_lt (Int.ofNat_lt.mpr (Nat.lt_of_le_of_lt hmnmx hmxlt))
        refine ⟨fun h0 => absurd (h0 ▸ hi) (Int.lt_irrefl 0),
          fun hpos => absurd (Int.lt_trans hpos hi) (Int.lt_irrefl 0), ?_,
          fun hge => absurd (Int.lt_of_le_of_lt hge hi) (Int.not_lt.mpr (Int.natCast_nonneg n))⟩
        intro _ x hx
        rw [Int.add_comm, Int.sub_add_cancel]
        exact Int.ofNat_le.mpr (hmn x hx)
      · rw [analyze_cons_low hspan hhigh] at h
        obtain rfl := Option.some.inj h
        refine ⟨fun h0 => absurd (Int.natCast_eq_zero.mp h0) (Nat.succ_ne_zero _),
          fun _ _ x hx => Int.ofNat_lt.mpr (Nat.lt_succ_of_le (hmx x hx)),
          fun hneg => absurd hneg (Int.not_lt.mpr (Int.natCast_nonneg _)), ?_⟩
        -- `mx + 1 = n` would make `mn = 0` and the selection span `n` positions
        intro hge
        omega

/-- the strategy value `rolls_with_counts` dispatches on: `_analyze_selection`'s answer, or `n` without a
selection -/
def strategyOf (n : Nat) (idxs? : Option (List Nat)) : Option Int :=
  match idxs? with
  | none => some (n : Int)
  | some idxs => analyze n idxs

/-- what the final read-out needs of `_analyze_selection`, in terms of the window width -/
theorem analyze_window (n : Nat) (idxs : List Nat) (hlt : ∀ j ∈ idxs, j < n) (k : Int)
    (h : analyze n idxs = some k) :
    (0 < k → ∀ j ∈ idxs, j < k.natAbs) ∧ (k < 0 → ∀ j ∈ idxs, n - k.natAbs ≤ j) := by
  have hs := analyze_sound n idxs hlt k h
  refine ⟨fun hpos j hj => ?_, fun hneg j hj => ?_⟩
  · have hjk : (j : Int) < k :=
      if hkn : k < n then hs.2.1 hpos hkn j hj
      else Int.lt_of_lt_of_le (Int.ofNat_lt.mpr (hlt j hj)) (Int.not_lt.mp hkn)
    omega
  · have := hs.2.2.1 hneg j hj; omega

theorem analyze_zero_iff {n : Nat} {idxs : List Nat} (hlt : ∀ j ∈ idxs, j < n) :
    analyze n idxs = some 0 ↔ idxs = [] :=
  ⟨fun h => (analyze_sound n idxs hlt 0 h).1 rfl, fun h => h ▸ rfl⟩

theorem resolve_cons_ok {n : Nat} {s : Sel} {ss : List Sel} {l : List Nat}
    (h : resolve n (s :: ss) = .ok l) :
    ∃ a b, resolveOne n s = .ok a ∧ resolve n ss = .ok b ∧ l = a ++ b := by
  rw [resolve] at h
  cases ha : resolveOne n s with
  | error e => rw [ha] at h; cases h
  | ok a =>
    cases hb : resolve n ss with
    | error e => rw [ha, hb] at h; cases h
    | ok b => rw [ha, hb] at h; exact ⟨a, b, rfl, rfl, (Except.ok.inj h).symm⟩

theorem resolve_idx {n p : Nat} (hp : p < n) : resolve n [Sel.idx p] = .ok [p] := by
  have h1 : ¬ ((p : Int) < 0) := Int.not_lt.mpr (Int.natCast_nonneg p)
  have h2 : (0 : Int) ≤ p ∧ (p : Int) < n := ⟨Int.natCast_nonneg p, Int.ofNat_lt.mpr hp⟩
  simp only [resolve, resolveOne, bind, Except.bind, pure, Except.pure, if_neg h1, if_pos h2,
    Int.toNat_natCast, List.append_nil]

theorem mem_pyRange {start stop step : Int} {fuel : Nat} {x : Int}
    (hx : x ∈ pyRange start stop step fuel) :
    (step > 0 → start ≤ x ∧ x < stop) ∧ (step < 0 → stop < x ∧ x ≤ start) := by
  induction fuel generalizing start with
  | zero => cases hx
  | succ fuel ih =>
    rw [pyRange] at hx
    split at hx
    · next hc =>
      rcases List.mem_cons.mp hx with rfl | hx
      · rcases hc with ⟨hp, hlt⟩ | ⟨hn, hgt⟩
        · exact ⟨fun _ => ⟨Int.le_refl _, hlt⟩, fun h => absurd hp (Int.lt_asymm h)⟩
        · exact ⟨fun h => absurd hn (Int.lt_asymm h), fun _ => ⟨hgt, Int.le_refl _⟩⟩
      · obtain ⟨hpos, hneg⟩ := ih hx
        exact ⟨fun hp => ⟨by have := (hpos hp).1; omega, (hpos hp).2⟩,
          fun hn => ⟨(hneg hn).1, by have := (hneg hn).2; omega⟩⟩
    · cases hx

/-- start and stop of `slice.indices`: a default among `lower`/`upper`, or a clamped bound -/
theorem slice_bound_mem {len lower upper : Int}
    (hb : lower ≤ 0 ∧ len - 1 ≤ upper ∧ lower ≤ upper) (o : Option Int) {d : Int}
    (hd : d = lower ∨ d = upper) (r : Int)
    (hr : r = match o with
      | none => d
      | some v => if v < 0 then max (v + len) lower else min v upper) :
    lower ≤ r ∧ r ≤ upper := by
  subst hr
  obtain ⟨h0, h1, h2⟩ := hb
  cases o with
  | none =>
    rcases hd with rfl | rfl
    · exact ⟨Int.le_refl _, h2⟩
    · exact ⟨h2, Int.le_refl _⟩
  | some v =>
    dsimp only
    split
    · exact ⟨Int.le_max_right _ _, Int.max_le.mpr ⟨by omega, h2⟩⟩
    · next hv =>
      exact ⟨Int.le_min.mpr ⟨Int.le_trans h0 (Int.not_lt.mp hv), h2⟩, Int.min_le_right _ _⟩

/-- a non-error `sliceIndices` is a `pyRange` whose start and stop lie in `[lower, upper]` (bounds only, which
is what `sliceIndices_lt` needs; the values are the `let`s of `sliceIndices`) -/
theorem sliceIndices_eq (n : Nat) (a b c : Option Int) (hst : c.getD 1 ≠ 0) :
    ∃ s e lower upper : Int,
      sliceIndices n a b c = .ok ((pyRange s e (c.getD 1) (n + 1)).map Int.toNat) ∧
      lower = (if c.getD 1 > 0 then 0 else -1) ∧
      upper = (if c.getD 1 > 0 then (n : Int) else n - 1) ∧
      (lower ≤ s ∧ s ≤ upper) ∧ (lower ≤ e ∧ e ≤ upper) := by
  have hb : (if c.getD 1 > 0 then 0 else -1 : Int) ≤ 0 ∧
      (n : Int) - 1 ≤ (if c.getD 1 > 0 then (n : Int) else n - 1) ∧
      (if c.getD 1 > 0 then 0 else -1 : Int) ≤ (if c.getD 1 > 0 then (n : Int) else n - 1) := by
    split
    · exact ⟨Int.le_refl 0, Int.sub_le_self _ (by decide), Int.natCast_nonneg n⟩
    · exact ⟨by decide, Int.le_refl _, Int.sub_le_sub_right (Int.natCast_nonneg n) 1⟩
  exact ⟨_, _, _, _, if_neg hst, rfl, rfl,
    slice_bound_mem hb a (ite_eq_or_eq _ _ _).symm _ rfl,
    slice_bound_mem hb b (ite_eq_or_eq _ _ _) _ rfl⟩

theorem sliceIndices_lt {n : Nat} {a b c : Option Int} {l : List Nat}
    (h : sliceIndices n a b c = .ok l) : ∀ j ∈ l, j < n := by
  by_cases hst : c.getD 1 = 0
  · exact nomatch (if_pos hst).symm.trans h
  · obtain ⟨s, e, lower, upper, heq, hlo, hup, hs, he⟩ := sliceIndices_eq n a b c hst
    obtain rfl : _ = l := Except.ok.inj (heq.symm.trans h)
    intro j hj
    obtain ⟨x, hx, rfl⟩ := List.mem_map.mp hj
    have hx' : 0 ≤ x ∧ x < n := by
      by_cases hpos : c.getD 1 > 0
      · rw [if_pos hpos] at hlo hup
        subst hlo hup
        have := (mem_pyRange hx).1 hpos
        exact ⟨Int.le_trans hs.1 this.1, Int.lt_of_lt_of_le this.2 he.2⟩
      · rw [if_neg hpos] at hlo hup
        subst hlo hup
        have := (mem_pyRange hx).2 (Int.lt_iff_le_and_ne.mpr ⟨Int.not_lt.mp hpos, hst⟩)
        omega
    exact (Int.toNat_lt hx'.1).mpr hx'.2

theorem resolveOne_lt {n : Nat} {s : Sel} {l : List Nat} (h : resolveOne n s = .ok l) :
    ∀ j ∈ l, j < n := by
  cases s with
  | idx i =>
    simp only [resolveOne] at h
    generalize (if i < 0 then i + (n : Int) else i) = k at h
    split at h
    · next hk =>
      obtain rfl := Except.ok.inj h
      intro j hj
      obtain rfl := List.mem_singleton.mp hj
      exact (Int.toNat_lt hk.1).mpr hk.2
    · cases h
  | slc a b c => exact sliceIndices_lt h

theorem resolve_lt {n : Nat} {which : List Sel} {l : List Nat} (h : resolve n which = .ok l) :
    ∀ j ∈ l, j < n := by
  induction which generalizing l with
  | nil =>
    obtain rfl : [] = l := Except.ok.inj h
    exact fun _ hj => (List.not_mem_nil hj).elim
  | cons s ss ih =>
    obtain ⟨a, b, ha, hb, rfl⟩ := resolve_cons_ok h
    intro j hj
    rcases List.mem_append.mp hj with hj | hj
    · exact resolveOne_lt ha j hj
    · exact ih hb j hj

end Dyce
