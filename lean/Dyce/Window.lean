import Dyce.WSum
import Dyce.Sort

/-! The window of the sorted roll that a strategy enumerates (`window`), the padding that stands for
the rest (`pad`), and what the final `getitems` (`takeIdxs`, `readOut`) can see of a padded roll.
The window of a concatenation only depends on the windows of its parts (`window_middle`, from
`merge_take`); `SeesWindow`: a read-out cannot tell a padded sorted roll from its padded window —
true of `takeIdxs` at positions inside the window (`takeIdxs_seesWindow`). -/
namespace Dyce
open List

variable {α : Type} {le : α → α → Bool}

/-- The first `k` outputs of a merge depend only on the first `k` elements of each input. -/
theorem merge_take (le : α → α → Bool) (k : Nat) :
    ∀ (s₁ s₂ : List α) (j₁ j₂ : Nat), k ≤ j₁ → k ≤ j₂ →
      (merge s₁ s₂ le).take k = (merge (s₁.take j₁) (s₂.take j₂) le).take k := by
  induction k with
  | zero => intros; rfl
  | succ k ih =>
    intro s₁ s₂ j₁ j₂ h₁ h₂
    -- `j₁ = 0` and `j₂ = 0` are refuted by `h₁`, `h₂`
    match j₁, j₂, s₁, s₂ with
    | _, j₂, [], s₂ => rw [take_nil, nil_merge, nil_merge, take_take, Nat.min_eq_left h₂]
    | j₁, _, s₁, [] => rw [take_nil, merge_right, merge_right, take_take, Nat.min_eq_left h₁]
    | j₁ + 1, j₂ + 1, a :: s₁, b :: s₂ =>
      rw [take_succ_cons, take_succ_cons, cons_merge_cons, cons_merge_cons]
      split
      · rw [take_succ_cons, take_succ_cons,
          ih s₁ (b :: s₂) j₁ (j₂ + 1) (Nat.le_of_succ_le_succ h₁) (Nat.le_of_succ_le h₂),
          take_succ_cons]
      · rw [take_succ_cons, take_succ_cons,
          ih (a :: s₁) s₂ (j₁ + 1) j₂ (Nat.le_of_succ_le h₁) (Nat.le_of_succ_le_succ h₂),
          take_succ_cons]

/-- the `k` lowest -/
def lowK (le : α → α → Bool) (k : Nat) (t : List α) : List α := (sortBy le t).take k

theorem sortBy_lowK (hle : TotalOrderB le) (k : Nat) (t : List α) :
    sortBy le (lowK le k t) = lowK le k t :=
  sortBy_of_sorted ((sortBy_pairwise hle t).sublist (List.take_sublist _ _))

theorem lowK_append (hle : TotalOrderB le) (k : Nat) (a b : List α) :
    lowK le k (a ++ b) = lowK le k (lowK le k a ++ lowK le k b) := by
  rw [lowK, lowK, sortBy_append_eq_merge hle, sortBy_append_eq_merge hle, sortBy_lowK hle,
    sortBy_lowK hle]
  exact merge_take le k _ _ k k (le_refl k) (le_refl k)

theorem lowK_idem (hle : TotalOrderB le) (k : Nat) (t : List α) :
    lowK le k (lowK le k t) = lowK le k t := by
  rw [lowK, sortBy_lowK hle, lowK, List.take_take, Nat.min_self]

theorem lowK_middle (hle : TotalOrderB le) (k : Nat) (a t u : List α) :
    lowK le k (a ++ (lowK le k t ++ u)) = lowK le k (a ++ (t ++ u)) := by
  rw [lowK_append hle k a (lowK le k t ++ u), lowK_append hle k (lowK le k t) u, lowK_idem hle,
    lowK_append hle k a (t ++ u), lowK_append hle k t u]

/-- The selection `k` as `rolls_with_counts` passes it to the enumerators: everything (`none`),
the `k` lowest (`k ≥ 0`), the `|k|` highest (`k < 0`) of the sorted roll. -/
def window (le : α → α → Bool) : Option Int → List α → List α
  | none, t => sortBy le t
  | some k, t =>
    if k < 0 then (sortBy le t).drop (t.length - k.natAbs) else lowK le k.natAbs t

/-- the padding slots that stand for the part of the roll outside the window -/
def pad : Option Int → Nat → List (Option α) → List (Option α)
  | none, _, s => s
  | some k, p, s => if k < 0 then List.replicate p none ++ s else s ++ List.replicate p none

/-- the read-out `ρ` cannot tell a sorted partial roll of at most `N` outcomes, padded to `N`
slots, from its padded window -/
def SeesWindow (le : α → α → Bool) (k : Option Int) (N : Nat) (ρ : List (Option α) → Nat) : Prop :=
  ∀ s : List α, s.length ≤ N →
    ρ (pad k (N - s.length) ((sortBy le s).map some))
      = ρ (pad k (N - (window le k s).length) ((window le k s).map some))

theorem pad_zero (k : Option Int) (s : List (Option α)) : pad k 0 s = s := by
  rcases k with _ | k
  · rfl
  · rw [pad]
    split
    · exact List.nil_append s
    · exact List.append_nil s

theorem window_length_le (le : α → α → Bool) (k : Option Int) (t : List α) :
    (window le k t).length ≤ t.length := by
  rcases k with _ | k
  · exact (sortBy_length le t).le
  · simp only [window, lowK]
    split
    · rw [List.length_drop, sortBy_length]; exact Nat.sub_le _ _
    · rw [List.length_take, sortBy_length]; exact Nat.min_le_right _ _

theorem window_length (le : α → α → Bool) {k : Int} {t : List α} (h : k.natAbs ≤ t.length) :
    (window le (some k) t).length = k.natAbs := by
  simp only [window, lowK]
  split
  · rw [List.length_drop, sortBy_length, Nat.sub_sub_self h]
  · rw [List.length_take, sortBy_length, Nat.min_eq_left h]

theorem window_of_length_le (le : α → α → Bool) {k : Int} {t : List α} (h : t.length ≤ k.natAbs) :
    window le (some k) t = sortBy le t := by
  simp only [window, lowK]
  split
  · rw [Nat.sub_eq_zero_of_le h, List.drop_zero]
  · rw [List.take_of_length_le (by rwa [sortBy_length])]

theorem window_nonneg (le : α → α → Bool) {k : Int} (hk : ¬ k < 0) (t : List α) :
    window le (some k) t = lowK le k.natAbs t := if_neg hk

/-- the high end is the low end under the flipped order -/
theorem window_neg (hle : TotalOrderB le) {k : Int} (hk : k < 0) (t : List α) :
    window le (some k) t = (lowK (fun a b => le b a) k.natAbs t).reverse := by
  rw [window, if_pos hk, lowK, sortBy_flip hle, List.take_reverse, List.reverse_reverse,
    sortBy_length]

theorem window_middle (hle : TotalOrderB le) (k : Option Int) (a t u : List α) :
    window le k (a ++ (window le k t ++ u)) = window le k (a ++ (t ++ u)) := by
  rcases k with _ | k
  · exact sortBy_congr_perm hle (((sortBy_perm le t).append_right u).append_left a)
  · by_cases hk : k < 0
    · -- under the flipped order the inner window stands reversed, which sorting does not see
      rw [window_neg hle hk, window_neg hle hk, window_neg hle hk, lowK,
        sortBy_congr_perm hle.flip (((List.reverse_perm _).append_right u).append_left a),
        ← lowK, lowK_middle hle.flip]
    · simp only [window_nonneg le hk]
      exact lowK_middle hle _ a t u

/-! `takeIdxs` sees `roll[j]?.join` at the selected positions and nothing else. -/

theorem takeIdxs_eq_map_join (roll : List (Option α)) (idxs : List Nat) :
    takeIdxs roll idxs = idxs.map fun j => roll[j]?.join := by
  unfold takeIdxs
  apply List.map_congr_left
  intro j _
  rcases roll[j]? with _ | _ | _ <;> rfl

theorem takeIdxs_congr {x y : List (Option α)} {idxs : List Nat}
    (h : ∀ j ∈ idxs, x[j]?.join = y[j]?.join) : takeIdxs x idxs = takeIdxs y idxs := by
  rw [takeIdxs_eq_map_join, takeIdxs_eq_map_join]
  exact List.map_congr_left h

theorem join_getElem?_map_some (l : List α) (j : Nat) : (l.map some)[j]?.join = l[j]? := by
  rw [List.getElem?_map]; cases l[j]? <;> rfl

theorem takeIdxs_padR (x : List α) (p : Nat) (idxs : List Nat) :
    takeIdxs (x.map some ++ List.replicate p none) idxs = takeIdxs (x.map some) idxs := by
  apply takeIdxs_congr
  intro j _
  by_cases h : j < (x.map some).length
  · rw [List.getElem?_append_left h]
  · rw [List.getElem?_append_right (not_lt.mp h),
      List.getElem?_eq_none (l := x.map some) (not_lt.mp h), List.getElem?_replicate]
    split <;> rfl

theorem takeIdxs_take {x : List α} {k : Nat} {idxs : List Nat} (hk : ∀ j ∈ idxs, j < k) :
    takeIdxs ((x.take k).map some) idxs = takeIdxs (x.map some) idxs := by
  apply takeIdxs_congr
  intro j hj
  rw [List.getElem?_map, List.getElem?_map, List.getElem?_take, if_pos (hk j hj)]

theorem takeIdxs_append_right {A A' B : List (Option α)} {idxs : List Nat}
    (hA : A.length = A'.length) (h : ∀ j ∈ idxs, A.length ≤ j) :
    takeIdxs (A ++ B) idxs = takeIdxs (A' ++ B) idxs := by
  apply takeIdxs_congr
  intro j hj
  rw [List.getElem?_append_right (h j hj), List.getElem?_append_right (hA ▸ h j hj), hA]

/-- a roll aligned to the right of `N` slots, read at the last `k` slots, shows its `k` highest -/
theorem takeIdxs_drop (x : List α) (N k : Nat) (hx : x.length ≤ N) {idxs : List Nat}
    (hk : ∀ j ∈ idxs, N - k ≤ j) :
    takeIdxs (List.replicate (N - x.length) none ++ x.map some) idxs
      = takeIdxs (List.replicate (N - (x.drop (x.length - k)).length) none
          ++ (x.drop (x.length - k)).map some) idxs := by
  rcases Nat.le_total x.length k with h | h
  · rw [Nat.sub_eq_zero_of_le h, List.drop_zero]
  · -- split `x = p ++ y` with `y` the `k` highest: both rolls end in `y`, after `N - k` slots
    have hyl : (x.drop (x.length - k)).length = k := by
      rw [List.length_drop, Nat.sub_sub_self h]
    have hxy := List.take_append_drop (x.length - k) x
    generalize x.drop (x.length - k) = y at hyl hxy ⊢
    generalize x.take (x.length - k) = p at hxy
    subst hxy hyl
    rw [List.length_append] at hx
    have hlen : (List.replicate (N - (p.length + y.length)) (none : Option α) ++ p.map some).length
        = N - y.length := by
      rw [List.length_append, List.length_replicate, List.length_map, Nat.add_comm p.length,
        Nat.sub_add_eq, Nat.sub_add_cancel (Nat.le_sub_of_add_le hx)]
    rw [List.length_append, List.map_append, ← List.append_assoc]
    exact takeIdxs_append_right (hlen.trans List.length_replicate.symm)
      fun j hj => hlen ▸ hk j hj

theorem takeIdxs_range (roll : List (Option α)) (n : Nat) (hn : roll.length = n) :
    takeIdxs roll (List.range n) = roll := by
  apply List.ext_getElem
  · rw [takeIdxs, List.length_map, List.length_range, hn]
  · intro j h1 h2
    simp only [takeIdxs, List.getElem_map, List.getElem_range]
    rw [List.getElem?_eq_getElem h2]
    cases roll[j] <;> rfl

/-- a window that covers all `N` slots hides nothing -/
theorem seesWindow_full (le : α → α → Bool) {k : Int} {N : Nat} (h : N ≤ k.natAbs)
    (ρ : List (Option α) → Nat) : SeesWindow le (some k) N ρ := by
  intro s hs
  rw [window_of_length_le le (hs.trans h), sortBy_length]

/-- reading positions that lie inside the window — below `k` for the `k` lowest, among the last `|k|`
of the `N` slots for the `|k|` highest — sees only the window -/
theorem takeIdxs_seesWindow (le : α → α → Bool) (N : Nat) {k : Int} (hk0 : k ≠ 0) {idxs : List Nat}
    (hlow : 0 < k → ∀ j ∈ idxs, j < k.natAbs) (hhigh : k < 0 → ∀ j ∈ idxs, N - k.natAbs ≤ j)
    (F : List (Option α) → Nat) : SeesWindow le (some k) N (fun x => F (takeIdxs x idxs)) := by
  intro s hs
  show F _ = F _
  congr 1
  by_cases hk : k < 0
  · simp only [pad, window, if_pos hk]
    have := takeIdxs_drop (sortBy le s) N k.natAbs (by rwa [sortBy_length]) (hhigh hk)
    rwa [sortBy_length] at this
  · simp only [pad, window_nonneg le hk, lowK, if_neg hk]
    rw [takeIdxs_padR, takeIdxs_padR,
      takeIdxs_take (hlow (lt_of_le_of_ne (Int.not_lt.mp hk) hk0.symm))]

/-- the final `getitems`, on one roll -/
def readOut (idxs? : Option (List Nat)) (x : List (Option α)) : List (Option α) :=
  match idxs? with
  | none => x
  | some idxs => takeIdxs x idxs

theorem wsum_finishRolls (idxs? : Option (List Nat)) (rolls : List (List (Option α) × Nat))
    (F : List (Option α) → Nat) :
    wsum (finishRolls idxs? rolls) F = wsum rolls (fun x => F (readOut idxs? x)) :=
  wsum_map_fst rolls (readOut idxs?) F

end Dyce
