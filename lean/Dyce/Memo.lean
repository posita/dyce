/-! Model of a memo table (`functools.cache`, per-instance dict caches) and the
transparency theorem: with a sound key, history never changes an observable answer. -/
namespace Dyce

variable {A κ ν O : Type} [DecidableEq κ]

/-- one query against the memo: hit → stored value, miss → compute and store -/
def memoStep (key : A → κ) (f : A → ν) (m : List (κ × ν)) (a : A) : List (κ × ν) × ν :=
  match m.lookup (key a) with
  | some v => (m, v)
  | none => ((key a, f a) :: m, f a)

/-- run a whole history of queries, returning the final table and all the answers -/
def memoRun (key : A → κ) (f : A → ν) : List (κ × ν) → List A → List (κ × ν) × List ν
  | m, [] => (m, [])
  | m, a :: as =>
    let (m', v) := memoStep key f m a
    let (m'', vs) := memoRun key f m' as
    (m'', v :: vs)

/-- every stored value is the value of *some* argument with that key -/
def MemoInv (key : A → κ) (f : A → ν) (m : List (κ × ν)) : Prop :=
  ∀ k v, m.lookup k = some v → ∃ b, key b = k ∧ v = f b

theorem memoInv_nil (key : A → κ) (f : A → ν) : MemoInv key f [] :=
  fun _ _ h => nomatch h

theorem memoStep_spec (key : A → κ) (f : A → ν) (m : List (κ × ν)) (a : A) (hm : MemoInv key f m) :
    (∃ b, key b = key a ∧ (memoStep key f m a).2 = f b) ∧ MemoInv key f (memoStep key f m a).1 := by
  unfold memoStep
  cases h : m.lookup (key a) with
  | some v => exact ⟨hm _ v h, hm⟩
  | none =>
    refine ⟨⟨a, rfl, rfl⟩, fun k v hk => ?_⟩
    rw [List.lookup_cons] at hk
    split at hk
    · next hka => exact ⟨a, (beq_iff_eq.mp hka).symm, (Option.some.inj hk).symm⟩
    · exact hm k v hk

/-- **C13 core**: if equal keys imply equal observables of the computed value, every answer in
every history has the observable of a cold computation. -/
theorem memo_transparent (key : A → κ) (f : A → ν) (Obs : ν → O)
    (hkey : ∀ a b, key a = key b → Obs (f a) = Obs (f b)) :
    ∀ (m : List (κ × ν)), MemoInv key f m → ∀ (as : List A),
      (memoRun key f m as).2.map Obs = as.map (fun a => Obs (f a)) := by
  intro m hm as
  induction as generalizing m with
  | nil => rfl
  | cons a as ih =>
    obtain ⟨⟨b, hb, hv⟩, hm'⟩ := memoStep_spec key f m a hm
    simp only [memoRun, List.map_cons, ih _ hm', hv, hkey b a hb]

end Dyce
