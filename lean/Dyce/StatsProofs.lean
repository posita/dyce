import Dyce.HistOpsModel
import Dyce.HistProofs
import Mathlib.Tactic.Ring
import Mathlib.Algebra.BigOperators.Ring.List
import Mathlib.Data.Rat.Cast.Order

/-! `distribution`, `mean`, `variance` over `ℚ` (C16).  Everything is said about the expectation
`ex h G = rsum h G / (total or 1)`: it is linear, does not see scaling or zero-count entries, and
factorises over `mapH`; the laws of mean and variance are read off in `Props/C16`. -/
namespace Dyce

variable {α : Type}

/-- rational-valued weighted sum `Σ G(o)·count` -/
def rsum (l : List (α × Nat)) (G : α → ℚ) : ℚ := (l.map fun oc => G oc.1 * (oc.2 : ℚ)).sum

@[simp] theorem rsum_nil (G : α → ℚ) : rsum ([] : List (α × Nat)) G = 0 := rfl
@[simp] theorem rsum_cons (e : α × Nat) (l : List (α × Nat)) (G : α → ℚ) :
    rsum (e :: l) G = G e.1 * (e.2 : ℚ) + rsum l G := by simp [rsum]
@[simp] theorem rsum_append (l₁ l₂ : List (α × Nat)) (G : α → ℚ) :
    rsum (l₁ ++ l₂) G = rsum l₁ G + rsum l₂ G := by simp [rsum]

theorem rsum_one (l : List (α × Nat)) : rsum l (fun _ => 1) = (total l : ℚ) := by
  rw [cast_total]
  simp only [rsum, one_mul]

theorem rsum_add (l : List (α × Nat)) (F G : α → ℚ) : rsum l (fun x => F x + G x) = rsum l F + rsum l G := by
  simp only [rsum, add_mul, List.sum_map_add]

theorem rsum_mul_left (l : List (α × Nat)) (c : ℚ) (G : α → ℚ) : rsum l (fun x => c * G x) = c * rsum l G := by
  simp only [rsum, mul_assoc, List.sum_map_mul_left]

theorem rsum_mul_right (l : List (α × Nat)) (c : ℚ) (G : α → ℚ) : rsum l (fun x => G x * c) = rsum l G * c := by
  simp only [rsum, mul_right_comm _ c, List.sum_map_mul_right]

theorem rsum_const (l : List (α × Nat)) (c : ℚ) : rsum l (fun _ => c) = c * (total l : ℚ) := by
  rw [← rsum_one, ← rsum_mul_left]; simp only [mul_one]

theorem rsum_ofItems [DecidableEq α] (le : α → α → Bool) (items : List (α × Nat)) (G : α → ℚ) :
    rsum (ofItems le items) G = rsum items G :=
  sum_ofItems (fun o c => G o * (c : ℚ)) (fun _ _ _ => by rw [Nat.cast_add, mul_add]) le items

theorem rsum_map_scale {β γ : Type} (b : List (β × Nat)) (g : β → γ) (c : Nat) (G : γ → ℚ) :
    rsum (b.map fun yc => (g yc.1, c * yc.2)) G = rsum b (fun y => G (g y)) * (c : ℚ) := by
  induction b with
  | nil => simp
  | cons yc b ihb =>
    simp only [List.map_cons, rsum_cons, ihb]
    push_cast
    ring

theorem rsum_mapH {β γ : Type} [DecidableEq γ] (le : γ → γ → Bool) (op : α → β → γ) (a : Hist α) (b : Hist β)
    (G : γ → ℚ) :
    rsum (mapH le op a b) G = rsum a (fun x => rsum b (fun y => G (op x y))) := by
  unfold mapH
  rw [rsum_ofItems]
  induction a with
  | nil => simp
  | cons xc a ih =>
    simp only [List.flatMap_cons, rsum_append, ih, rsum_cons]
    congr 1
    exact rsum_map_scale b (fun y => op xc.1 y) xc.2 G

/-- the denominator Python uses: `total or 1` -/
def tot1 (h : Hist α) : Nat := if total h = 0 then 1 else total h

theorem rsum_scaleH (k : Nat) (h : Hist α) (G : α → ℚ) : rsum (scaleH k h) G = (k : ℚ) * rsum h G := by
  rw [mul_comm]; exact rsum_map_scale h (fun x => x) k G

theorem rsum_eq_zero_of_total_zero (h : Hist α) (h0 : total h = 0) (G : α → ℚ) : rsum h G = 0 := by
  induction h with
  | nil => rfl
  | cons e h ih =>
    obtain ⟨h1, h2⟩ := Nat.add_eq_zero_iff.mp (total_cons e h ▸ h0)
    rw [rsum_cons, ih h2, h1, Nat.cast_zero, mul_zero, add_zero]

theorem rsum_nonneg (l : List (α × Nat)) (G : α → ℚ) (hG : ∀ x, 0 ≤ G x) : 0 ≤ rsum l G := by
  induction l with
  | nil => exact le_rfl
  | cons e l ih => rw [rsum_cons]; exact add_nonneg (mul_nonneg (hG _) (Nat.cast_nonneg _)) ih

/-- the expectation of `G` under `h`, with Python's denominator -/
def ex (h : Hist α) (G : α → ℚ) : ℚ := rsum h G / (tot1 h : ℚ)

theorem meanH_eq (h : Hist ℚ) : meanH h = ex h (fun x => x) := rfl

theorem varianceH_none (h : Hist ℚ) :
    varianceH h none = ex h (fun x => x * x) - meanH h * meanH h := rfl

/-- an explicit `mu` is used as given unless it is falsy (`0`), when the mean is recomputed -/
theorem varianceH_some (h : Hist ℚ) (v : ℚ) :
    varianceH h (some v)
      = ex h (fun x => x * x) - (if v = 0 then meanH h else v) * (if v = 0 then meanH h else v) := rfl

/-- `total or 1` never matters: with total 0 the numerator is 0 and `0 / 0 = 0 / 1` in `ℚ` -/
theorem ex_eq (h : Hist α) (G : α → ℚ) : ex h G = rsum h G / (total h : ℚ) := by
  by_cases h0 : total h = 0
  · rw [ex, rsum_eq_zero_of_total_zero h h0, zero_div, zero_div]
  · rw [ex, tot1, if_neg h0]

theorem ex_add (h : Hist α) (F G : α → ℚ) : ex h (fun x => F x + G x) = ex h F + ex h G := by
  simp only [ex, rsum_add, add_div]

/-- (`simp` does not find this at `G := id`: its index eta-reduces `fun x => c * x` to `HMul.hMul c`;
use `rw`, or write the product as `x * c` for `ex_mul_right`) -/
theorem ex_mul_left (h : Hist α) (c : ℚ) (G : α → ℚ) : ex h (fun x => c * G x) = c * ex h G := by
  simp only [ex, rsum_mul_left, mul_div_assoc]

theorem ex_mul_right (h : Hist α) (c : ℚ) (G : α → ℚ) : ex h (fun x => G x * c) = ex h G * c := by
  simp only [ex, rsum_mul_right, div_mul_eq_mul_div]

theorem ex_const {h : Hist α} (hT : 0 < total h) (c : ℚ) : ex h (fun _ => c) = c := by
  rw [ex_eq, rsum_const, mul_div_assoc, div_self (by exact_mod_cast hT.ne'), mul_one]

theorem ex_nonneg (h : Hist α) (G : α → ℚ) (hG : ∀ x, 0 ≤ G x) : 0 ≤ ex h G := by
  rw [ex_eq]; exact div_nonneg (rsum_nonneg h G hG) (Nat.cast_nonneg _)

theorem ex_of_total_zero {h : Hist α} (h0 : total h = 0) (G : α → ℚ) : ex h G = 0 := by
  rw [ex, rsum_eq_zero_of_total_zero h h0, zero_div]

theorem ex_scaleH {k : Nat} (hk : 0 < k) (h : Hist α) (G : α → ℚ) : ex (scaleH k h) G = ex h G := by
  rw [ex_eq, ex_eq, rsum_scaleH, total_scaleH, Nat.cast_mul,
    mul_div_mul_left _ _ (by exact_mod_cast hk.ne')]

theorem ex_zero_pad (a b : Hist α) (x : α) (G : α → ℚ) : ex (a ++ (x, 0) :: b) G = ex (a ++ b) G := by
  simp only [ex_eq, rsum_append, rsum_cons, total_eq_wsum, wsum_append, wsum_cons, Nat.cast_zero,
    mul_zero, Nat.zero_mul, zero_add]

/-- Fubini: `E` over an independent product factorises (no positivity needed) -/
theorem ex_mapH {β γ : Type} [DecidableEq γ] (le : γ → γ → Bool) (op : α → β → γ)
    (a : Hist α) (b : Hist β) (G : γ → ℚ) :
    ex (mapH le op a b) G = ex a (fun x => ex b (fun y => G (op x y))) := by
  simp only [ex_eq, rsum_mapH, total_mapH, Nat.cast_mul, div_eq_mul_inv, rsum_mul_right, mul_inv,
    mul_assoc, mul_comm (total a : ℚ)⁻¹]

end Dyce
