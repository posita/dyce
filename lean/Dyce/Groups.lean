import Dyce.WSum
import Dyce.Sort

/-! Groups of identical consecutive dice (`groupsOf`, dyce's `_exact_groups`): expanding the groups
gives the pool back, `itertools.product` over per-group lists (`combos`) is a product of weighted
lists, and what `P.__init__` guarantees of the dice (`DiceOK`) holds of every group (`GroupOK`). -/
namespace Dyce

variable {α : Type} {le : α → α → Bool}

theorem wsum_combos_cons (g : List (List α × Nat)) (gs : List (List (List α × Nat)))
    (F : List α → Nat) :
    wsum (combos (g :: gs)) F = wsum g (fun s => wsum (combos gs) (fun u => F (s ++ u))) :=
  wsum_flatMap_map g (fun _ => combos gs) (· ++ ·) F

/-- the dice of a list of groups: each die as often as its group says -/
def expand (groups : List (Hist α × Nat)) : List (Hist α) :=
  groups.flatMap fun g => List.replicate g.2 g.1

theorem expand_cons (g : Hist α × Nat) (gs : List (Hist α × Nat)) :
    expand (g :: gs) = List.replicate g.2 g.1 ++ expand gs := rfl

theorem expand_length (gs : List (Hist α × Nat)) :
    (expand gs).length = (gs.map (·.2)).sum := by
  induction gs with
  | nil => rfl
  | cons g gs ih => rw [expand_cons]; simp [ih]

theorem wsum_poolTuples_expand_cons (g : Hist α × Nat) (gs : List (Hist α × Nat)) (F : List α → Nat) :
    wsum (poolTuples (expand (g :: gs))) F
      = wsum (tuples g.1 g.2) fun t => wsum (poolTuples (expand gs)) fun u => F (t ++ u) := by
  rw [expand_cons, wsum_poolTuples_append, poolTuples_replicate]

/-- **Abstract heterogeneous step.** If every group's enumeration `K g` presents `pre t` with the
right weights, and the read-out `R` cannot tell `pre t` from `t` inside a concatenation of at most
`N` outcomes, then enumerating per group and concatenating is the same as enumerating the whole
Cartesian product. -/
theorem wsum_combos_map (K : Hist α × Nat → List (List α × Nat)) (pre : List α → List α)
    (R : List α → Nat) (N : Nat) (hpre : ∀ t, (pre t).length ≤ t.length)
    (hA : ∀ a t u, (a ++ (t ++ u)).length ≤ N → R (a ++ (pre t ++ u)) = R (a ++ (t ++ u)))
    (gs : List (Hist α × Nat))
    (hB : ∀ g ∈ gs, ∀ H : List α → Nat,
      wsum (K g) H = wsum (tuples g.1 g.2) (fun t => H (pre t)))
    (a : List α) (ha : a.length + (expand gs).length ≤ N) :
    wsum (combos (gs.map K)) (fun s => R (a ++ s))
      = wsum (poolTuples (expand gs)) (fun t => R (a ++ t)) := by
  induction gs generalizing a with
  | nil => rfl
  | cons g gs ih =>
    rw [expand_cons, List.length_append, List.length_replicate] at ha
    rw [List.map_cons, wsum_combos_cons, wsum_poolTuples_expand_cons, hB g List.mem_cons_self]
    apply wsum_congr
    intro tw htw
    have ht := (mem_tuples htw).1
    have hlen : (a ++ pre tw.1).length + (expand gs).length ≤ N := by
      rw [List.length_append, Nat.add_assoc]
      exact Nat.le_trans (Nat.add_le_add_left (Nat.add_le_add_right (ht ▸ hpre tw.1) _) _) ha
    have ih' := ih (fun g' hg' => hB g' (List.mem_cons_of_mem _ hg')) (a ++ pre tw.1) hlen
    simp only [List.append_assoc] at ih'
    rw [ih']
    apply wsum_congr
    intro uw huw
    exact hA _ _ _ (by
      rw [List.length_append, List.length_append, ht, mem_poolTuples_length huw]; exact ha)

/-- a group is well formed: at least one die, keys strictly ascending, positive total -/
def GroupOK (le : α → α → Bool) (g : Hist α × Nat) : Prop :=
  0 < g.2 ∧ Asc le g.1 ∧ 0 < total g.1

variable [DecidableEq α]

theorem expand_groupsOf (dice : List (Hist α)) : expand (groupsOf dice) = dice := by
  fun_induction groupsOf dice with
  | case1 => rfl
  | case2 ds h n gs heq ih => rw [← ih, heq]; rfl
  | case3 h ds h' n gs heq _ ih => rw [← ih, heq]; rfl
  | case4 h ds heq ih => rw [← ih, heq]; rfl

/-- what `P.__init__` guarantees about every die of a pool (after F1/F2's repairs nothing else is
needed): keys strictly ascending and a positive total -/
def DiceOK (le : α → α → Bool) (dice : List (Hist α)) : Prop :=
  ∀ h ∈ dice, h.Pairwise (fun a b => le a.1 b.1 = true ∧ a.1 ≠ b.1) ∧ 0 < total h

theorem groupsOf_mem (dice : List (Hist α)) :
    ∀ g ∈ groupsOf dice, 0 < g.2 ∧ g.1 ∈ dice := by
  fun_induction groupsOf dice with
  | case1 => exact fun g hg => nomatch hg
  | case2 ds h n gs heq ih =>
    simp only [heq, List.forall_mem_cons] at ih ⊢
    exact ⟨⟨Nat.succ_pos n, List.mem_cons_self⟩,
      fun g hg => ⟨(ih.2 g hg).1, List.mem_cons_of_mem _ (ih.2 g hg).2⟩⟩
  | case3 h ds h' n gs heq _ ih =>
    simp only [heq, List.forall_mem_cons] at ih ⊢
    exact ⟨⟨Nat.one_pos, List.mem_cons_self⟩, ⟨ih.1.1, List.mem_cons_of_mem _ ih.1.2⟩,
      fun g hg => ⟨(ih.2 g hg).1, List.mem_cons_of_mem _ (ih.2 g hg).2⟩⟩
  | case4 h ds heq ih =>
    intro g hg
    obtain rfl := List.mem_singleton.mp hg
    exact ⟨Nat.one_pos, List.mem_cons_self⟩

theorem groups_ok (dice : List (Hist α)) (hd : DiceOK le dice) :
    ∀ g ∈ groupsOf dice, GroupOK le g := by
  intro g hg
  obtain ⟨h1, h2⟩ := groupsOf_mem dice g hg
  exact ⟨h1, (hd g.1 h2).1, (hd g.1 h2).2⟩

end Dyce
