import Dyce.EvalSpecProofs

/-! The ContextVar implementation `evalFn` computes the stateless rule `specEval` and leaves the cell
as it found it (`evalFn_refines`: one simulation, by fuel, branch list and callback program).  That the
context is restored (C14), the non-recursive case (C06) and what C07 says of the implementation are
read off in their `Props` files. -/
namespace Dyce

variable {α ρ : Type}

/-- while nested evaluations answer as `sv … ctx` and leave the cell `c` alone, a callback program run
from `c` is the stateless `specProg` and leaves `c` alone -/
theorem runProg_refines (ev : Nat → List (Src ρ) → Option Limit → M Cell (Hist α))
    (sv : Nat → List (Src ρ) → Option Limit → Ctx → Except Err (Hist α)) (c : Cell) (ctx : Ctx)
    (hev : ∀ fn srcs lim, ev fn srcs lim c = (sv fn srcs lim ctx, c)) :
    ∀ p : Prog α ρ, runProg ev p c = (specProg sv ctx p, c) := by
  intro p
  induction p with
  | ret r => rfl
  | throw e => rfl
  | call fn srcs lim k ih =>
    simp only [runProg, bind, M.bind, specProg, hev fn srcs lim]
    cases sv fn srcs lim ctx with
    | ok h => exact ih h
    | error e => rfl

theorem guarded_state (tok : Cell) (s : Hist α) (x : M Cell (Ret α)) (c : Cell) :
    (guarded tok s x c).2 = tok := by
  unfold guarded
  rcases x c with ⟨r, c'⟩
  cases r with
  | ok r => rfl
  | error e => cases e <;> rfl

theorem runProg_state (ev : Nat → List (Src ρ) → Option Limit → M Cell (Hist α))
    (hev : ∀ fn srcs lim c, (ev fn srcs lim c).2 = c) :
    ∀ (p : Prog α ρ) (c : Cell), (runProg ev p c).2 = c := by
  intro p c
  -- the cell stays `c`, so the answers given at `c` serve as the stateless `sv`; it ignores its
  -- context, so any context will do
  rw [runProg_refines ev (fun fn srcs lim _ => (ev fn srcs lim c).1) c ⟨none, 0, 1, 1⟩
    (fun fn srcs lim => Prod.ext rfl (hev fn srcs lim c)) p]

theorem branch_fold_refines {ev : Nat → List (Src ρ) → Option Limit → M Cell (Hist α)}
    (sv : Nat → List (Src ρ) → Option Limit → Ctx → Except Err (Hist α)) {f : Fn α ρ}
    {mkCtx : Nat → Ctx}
    (hev : ∀ cc fn srcs lim,
      ev fn srcs lim (some (mkCtx cc)) = (sv fn srcs lim (mkCtx cc), some (mkCtx cc)))
    (c : Cell) (bs : List (List ρ × Nat)) (acc : M Cell (List (Ret α × Nat)))
    (sacc : Except Err (List (Ret α × Nat))) (h : acc c = (sacc, c)) :
    (bs.foldl (branchStep ev f mkCtx) acc) c = (bs.foldl (specBranch sv f mkCtx) sacc, c) := by
  refine List.foldl_rel (r := fun (acc : M Cell (List (Ret α × Nat))) sacc => acc c = (sacc, c)) h
    fun b _ acc sacc h => ?_
  cases sacc with
  | error e => simp only [branchStep, bind, M.bind, h, specBranch]
  | ok sofar =>
    simp only [branchStep, bind, M.bind, h, specBranch, M.get, M.set, guarded,
      runProg_refines ev sv _ (mkCtx b.2) (hev b.2) (f.body b.1)]
    cases specProg sv (mkCtx b.2) (f.body b.1) with
    | ok r => rfl
    | error e => cases e <;> rfl

/-- **C07 core (refinement)**: the ContextVar implementation computes exactly the stateless
specification, and leaves the cell as it found it. -/
theorem evalFn_refines (env : Nat → Fn α ρ) (agg : List (Ret α × Nat) → Hist α)
    (lowest : Hist α → Hist α) :
    ∀ (fuel fn : Nat) (srcs : List (Src ρ)) (lim : Option Limit) (c : Cell),
      evalFn env agg lowest fuel fn srcs lim c
        = (specEval env agg lowest fuel fn srcs lim (c.getD ⟨none, 0, 1, 1⟩), c) := by
  intro fuel
  induction fuel with
  | zero => intro fn srcs lim c; rfl
  | succ fuel ih =>
    intro fn srcs lim c
    unfold evalFn specEval
    dsimp only
    generalize cutNow _ _ = cut
    cases cut with
    | true => rfl
    | false =>
      rw [branch_fold_refines (specEval env agg lowest fuel)
        (fun cc fn' srcs' lim' => ih fn' srcs' lim' _) c (branches srcs) (pure []) (.ok []) rfl]
      cases List.foldl _ _ _ with
      | ok rs => rfl
      | error e => rfl

end Dyce
