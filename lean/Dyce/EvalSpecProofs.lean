import Dyce.EvalSpec
/-! Equations for the stateless rule: `specEval` one level down, `specBranch` on each form of its
accumulator and callback result, and the fold over branches when every callback completes. -/
namespace Dyce

variable {α ρ : Type}

variable {env : Nat → Fn α ρ} {agg : List (Ret α × Nat) → Hist α} {lowest : Hist α → Hist α}
  {fuel fn : Nat} {srcs : List (Src ρ)} {lim : Option Limit} {cur : Ctx} {newLim : Limit}

theorem cutNow_int {n : Nat} {c : Ctx} : cutNow (.int n) c = true ↔ n ≤ c.depth :=
  decide_eq_true_iff

theorem cutNow_int_false {n : Nat} {c : Ctx} : cutNow (.int n) c = false ↔ c.depth < n :=
  decide_eq_false_iff_not.trans Nat.not_le

/-- one level of the rule, with the limit in force named -/
theorem specEval_succ (hlim : (lim.orElse fun _ => cur.limit).getD (.int 1) = newLim) :
    specEval env agg lowest (fuel + 1) fn srcs lim cur =
      if cutNow newLim cur then .ok (if cur.depth = 0 then lowest (env fn).sentinel else (env fn).sentinel)
      else
        match (branches srcs).foldl
            (specBranch (specEval env agg lowest fuel) (env fn)
              (fun cc => ⟨some newLim, cur.depth + 1, cur.precNum * cc, cur.precDen * srcTotal srcs⟩))
            (.ok []) with
        | .ok rs => .ok (if cur.depth = 0 then lowest (agg rs) else agg rs)
        | .error e => .error e := by
  subst hlim
  rfl

section
variable {sv : Nat → List (Src ρ) → Option Limit → Ctx → Except Err (Hist α)} {f : Fn α ρ}
  {mk : Nat → Ctx}

theorem specBranch_ok {sofar : List (Ret α × Nat)} {bw : List ρ × Nat} {r : Ret α}
    (h : specProg sv (mk bw.2) (f.body bw.1) = .ok r) :
    specBranch sv f mk (.ok sofar) bw = .ok (sofar ++ [(r, bw.2)]) := by
  simp only [specBranch, h]

theorem specBranch_recursionError {sofar : List (Ret α × Nat)} {bw : List ρ × Nat}
    (h : specProg sv (mk bw.2) (f.body bw.1) = .error .recursionError) :
    specBranch sv f mk (.ok sofar) bw = .ok (sofar ++ [(.hist f.sentinel, bw.2)]) := by
  simp only [specBranch, h]

theorem specBranch_error {sofar : List (Ret α × Nat)} {bw : List ρ × Nat} {e : Err}
    (hne : e ≠ .recursionError) (h : specProg sv (mk bw.2) (f.body bw.1) = .error e) :
    specBranch sv f mk (.ok sofar) bw = .error e := by
  cases e with
  | recursionError => exact absurd rfl hne
  | _ => simp only [specBranch, h]

theorem foldl_specBranch_error {e : Err} {bs : List (List ρ × Nat)} :
    bs.foldl (specBranch sv f mk) (.error e) = .error e := by
  induction bs with
  | nil => rfl
  | cons b bs ih => exact ih

theorem foldl_specBranch_ok (g : List ρ × Nat → Ret α) {bs : List (List ρ × Nat)}
    {sofar : List (Ret α × Nat)} (h : ∀ bw ∈ bs, specProg sv (mk bw.2) (f.body bw.1) = .ok (g bw)) :
    bs.foldl (specBranch sv f mk) (.ok sofar) = .ok (sofar ++ bs.map fun bw => (g bw, bw.2)) := by
  induction bs generalizing sofar with
  | nil => rw [List.map_nil, List.append_nil, List.foldl_nil]
  | cons b bs ih =>
    rw [List.foldl_cons, specBranch_ok (h b List.mem_cons_self),
      ih fun bw hbw => h bw (List.mem_cons_of_mem _ hbw), List.append_assoc]
    rfl

end

theorem foldl_specBranch_congr (sv₁ sv₂ : Nat → List (Src ρ) → Option Limit → Ctx → Except Err (Hist α))
    (f : Fn α ρ) (mk : Nat → Ctx) (bs : List (List ρ × Nat)) (acc : Except Err (List (Ret α × Nat)))
    (h : ∀ bw ∈ bs, specProg sv₁ (mk bw.2) (f.body bw.1) = specProg sv₂ (mk bw.2) (f.body bw.1)) :
    bs.foldl (specBranch sv₁ f mk) acc = bs.foldl (specBranch sv₂ f mk) acc := by
  refine List.foldl_rel (r := Eq) rfl fun b hb acc _ hacc => ?_
  subst hacc
  unfold specBranch
  rw [h b hb]

theorem specEval_of_cut (hlim : (lim.orElse fun _ => cur.limit).getD (.int 1) = newLim)
    (hcut : cutNow newLim cur = true) :
    specEval env agg lowest (fuel + 1) fn srcs lim cur
      = .ok ((if cur.depth = 0 then lowest else id) (env fn).sentinel) := by
  rw [specEval_succ hlim, if_pos hcut]
  exact congrArg Except.ok (apply_ite (fun h : Hist α → Hist α => h _) _ lowest id).symm

theorem specEval_of_ok (hlim : (lim.orElse fun _ => cur.limit).getD (.int 1) = newLim)
    (hcut : cutNow newLim cur = false)
    (g : List ρ × Nat → Ret α)
    (h : ∀ bw ∈ branches srcs, specProg (specEval env agg lowest fuel)
      ⟨some newLim, cur.depth + 1, cur.precNum * bw.2, cur.precDen * srcTotal srcs⟩ ((env fn).body bw.1)
        = .ok (g bw)) :
    specEval env agg lowest (fuel + 1) fn srcs lim cur
      = .ok ((if cur.depth = 0 then lowest else id) (agg ((branches srcs).map fun bw => (g bw, bw.2)))) := by
  rw [specEval_succ hlim, if_neg (ne_true_of_eq_false hcut), foldl_specBranch_ok g h, List.nil_append]
  exact congrArg Except.ok (apply_ite (fun h : Hist α → Hist α => h _) _ lowest id).symm

end Dyce
