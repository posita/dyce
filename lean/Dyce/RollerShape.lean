import Dyce.RollerOwn
/-! C12, provenance clause: the source rolls of every record were produced, in order, by the
sources of the producing node — `n` times over for `n@r`, once per expansion for substitution.
"Produced by" is membership in the enumeration of all rolls of that source (`Supp`), so the
statement applies again to every source roll: the record has the shape of the tree. -/
namespace Dyce

theorem mkRollDeep_sourceRolls (outs : List RO) (srs : List RollRec) :
    (mkRollDeep outs srs).sourceRolls = srs := rfl

/-- what the node kind says about the recorded source rolls -/
def SrcShape : RTree → List RollRec → Prop
  | .value _, srs => srs = []
  | .pool srcs, srs => List.Forall₂ (fun s r => Supp (rollW mkRollDeep s) r) srcs srs
  | .filt _ srcs, srs => List.Forall₂ (fun s r => Supp (rollW mkRollDeep s) r) srcs srs
  | .sel _ srcs, srs => List.Forall₂ (fun s r => Supp (rollW mkRollDeep s) r) srcs srs
  | .rep n s, srs => srs.length = n ∧ ∀ r ∈ srs, Supp (rollW mkRollDeep s) r
  | .bin _ l r, srs => ∃ a b, srs = [a, b] ∧ Supp (rollW mkRollDeep l) a ∧ Supp (rollW mkRollDeep r) b
  | .un _ s, srs => ∃ a, srs = [a] ∧ Supp (rollW mkRollDeep s) a
  | .unChain _ s, srs => ∃ a, srs = [a] ∧ Supp (rollW mkRollDeep s) a
  | .substMap _ _ _ s, srs => ∃ a, srs = [a] ∧ Supp (rollW mkRollDeep s) a
  | .subst _ e _ _ src, srs =>
    ∃ a rest, srs = a :: rest ∧ Supp (rollW mkRollDeep src) a ∧
      -- each further entry is an expansion roll re-wrapped around its adopted outcomes
      ∀ r ∈ rest, ∃ er, Supp (rollW mkRollDeep e) er ∧ r.sourceRolls = er.sourceRolls

theorem rollAllW_shape : ∀ (srcs : List RTree),
    AllW (fun rs => List.Forall₂ (fun s r => Supp (rollW mkRollDeep s) r) srcs rs) (rollAllW mkRollDeep srcs)
  | [] => AllW_pure List.Forall₂.nil
  | s :: ss => by
    refine AllW_bind (AllW_supp _) (fun r hr => ?_)
    refine AllW_bind (rollAllW_shape ss) (fun l hl => ?_)
    exact AllW_pure (List.Forall₂.cons hr hl)

/-- the rolls the substitution loop appends: the roll being expanded first, then one re-wrapped
expansion roll per substituted outcome, in the order the outcomes are visited -/
def ExpandShape (rollE : W RollRec) (roll : RollRec) (res : List RO × List RollRec) : Prop :=
  ∃ rest, res.2 = roll :: rest ∧ ∀ r ∈ rest, ∃ er, Supp rollE er ∧ r.sourceRolls = er.sourceRolls

theorem expandW_shape (p : Int → Bool) {rollE : W RollRec} (replace : Bool) :
    ∀ (k : Nat) (roll : RollRec),
      AllW (ExpandShape rollE roll) (expandW mkRollDeep p rollE replace k roll) := by
  intro k
  induction k with
  | zero =>
    intro roll
    rw [expandW]
    exact AllW_pure ⟨[], rfl, List.forall_mem_nil _⟩
  | succ k ih =>
    intro roll
    rw [expandW]
    refine AllW_foldl (fun _ => ExpandShape rollE roll) ?_ (fun _ => id)
      (AllW_pure ⟨[], rfl, List.forall_mem_nil _⟩)
    intro o _ st ⟨rest, hrest, hall⟩
    by_cases hp : p (o.value.getD 0) = true
    · rw [if_pos hp]
      refine AllW_bind (AllW_supp rollE) (fun er her => ?_)
      refine AllW_bind (ih _) (fun sub ⟨rest', hrest', hall'⟩ => AllW_pure ?_)
      refine ⟨rest ++ mkRollDeep (er.outcomes.map (RO.adoptAppend o)) er.sourceRolls :: rest', ?_, ?_⟩
      · simp only [hrest, hrest', List.cons_append]
      · intro r hr
        simp only [List.mem_append, List.mem_cons] at hr
        rcases hr with hr | rfl | hr
        · exact hall r hr
        · exact ⟨er, her, rfl⟩
        · exact hall' r hr
    · rw [if_neg hp]
      exact AllW_pure ⟨rest, hrest, hall⟩

theorem rollW_srcShape (t : RTree) : AllW (fun rec => SrcShape t rec.sourceRolls) (rollW mkRollDeep t) := by
  cases t with
  | value l =>
    cases l with
    | scalar v => exact AllW_pure rfl
    | hist hh => exact AllW_bind_any (fun v => AllW_pure rfl)
    | pool hs => exact AllW_bind_any (fun v => AllW_pure rfl)
  | pool srcs =>
    exact AllW_bind (rollAllW_shape srcs) (fun rs hrs => AllW_pure hrs)
  | rep n s =>
    refine AllW_bind
      (AllW_and (replicateW_length n _) (AllW_replicateW n (AllW_supp (rollW mkRollDeep s))))
      (fun rs hrs => AllW_pure hrs)
  | bin op l r =>
    refine AllW_bind (AllW_supp _) (fun a ha => ?_)
    refine AllW_bind (AllW_supp _) (fun b hb => ?_)
    exact AllW_pure ⟨a, b, rfl, ha, hb⟩
  | un op s =>
    refine AllW_bind (AllW_supp _) (fun a ha => ?_)
    exact AllW_pure ⟨a, rfl, ha⟩
  | unChain ops s =>
    refine AllW_bind (AllW_supp _) (fun a ha => ?_)
    exact AllW_pure ⟨a, rfl, ha⟩
  | filt p srcs =>
    exact AllW_bind (rollAllW_shape srcs) (fun rs hrs => AllW_pure hrs)
  | sel which srcs =>
    refine AllW_bind (rollAllW_shape srcs) (fun rs hrs => ?_)
    simp only
    split
    · exact AllW_pure hrs
    · exact AllW_pure hrs
  | subst p e replace md src =>
    refine AllW_bind (AllW_supp _) (fun a ha => ?_)
    refine AllW_bind (expandW_shape p replace md a) (fun res hres => ?_)
    obtain ⟨rest, hrest, hall⟩ := hres
    exact AllW_pure ⟨a, rest, hrest, ha, hall⟩
  | substMap p f md src =>
    refine AllW_bind (AllW_supp _) (fun a ha => ?_)
    exact AllW_pure ⟨a, rfl, ha⟩

end Dyce
