import Dyce.Model
import Mathlib.Data.List.Basic

/-! Python's `sorted` under a Boolean total order.  Everything rests on `sortBy_unique`: a sorted
permutation of `t` *is* `sortBy le t`. -/
namespace Dyce
open List

variable {α : Type}

/-- `le` is a (Bool-valued) total order: the assumption under which Python's `sorted`,
`min` and `max` behave as the model says (ints, bools, Fractions, finite floats). -/
structure TotalOrderB {α : Type} (le : α → α → Bool) : Prop where
  refl : ∀ a, le a a = true
  trans : ∀ a b c, le a b = true → le b c = true → le a c = true
  total : ∀ a b, (le a b || le b a) = true
  antisymm : ∀ a b, le a b = true → le b a = true → a = b

/-- keys strictly ascending -/
def Asc (le : α → α → Bool) (h : Hist α) : Prop :=
  h.Pairwise (fun a b => le a.1 b.1 = true ∧ a.1 ≠ b.1)

variable {le : α → α → Bool}

theorem TotalOrderB.flip (hle : TotalOrderB le) : TotalOrderB (fun a b => le b a) where
  refl := hle.refl
  trans := fun a b c hab hbc => hle.trans c b a hbc hab
  total := fun a b => hle.total b a
  antisymm := fun a b hab hba => hle.antisymm a b hba hab

theorem sortBy_pairwise (hle : TotalOrderB le) (t : List α) :
    (sortBy le t).Pairwise (fun a b => le a b = true) :=
  List.pairwise_mergeSort (le := le) hle.trans hle.total t

theorem sortBy_perm (le : α → α → Bool) (t : List α) : sortBy le t ~ t := List.mergeSort_perm t le

theorem mem_sortBy {t : List α} {x : α} : x ∈ sortBy le t ↔ x ∈ t :=
  List.mem_mergeSort

@[simp] theorem sortBy_length (le : α → α → Bool) (t : List α) : (sortBy le t).length = t.length :=
  (sortBy_perm le t).length_eq

theorem sortBy_unique (hle : TotalOrderB le) {s t : List α} (hp : s ~ t)
    (hs : s.Pairwise (fun a b => le a b = true)) : sortBy le t = s :=
  List.Perm.eq_of_pairwise (fun a b _ _ => hle.antisymm a b) (sortBy_pairwise hle t) hs
    ((sortBy_perm le t).trans hp.symm)

theorem sortBy_congr_perm (hle : TotalOrderB le) {a b : List α} (hp : a ~ b) :
    sortBy le a = sortBy le b :=
  sortBy_unique hle ((sortBy_perm le b).trans hp.symm) (sortBy_pairwise hle b)

theorem sortBy_of_sorted {t : List α} (ht : t.Pairwise (fun a b => le a b = true)) :
    sortBy le t = t := List.mergeSort_of_pairwise ht

theorem sortBy_map {β : Type} {s : β → β → Bool} (f : α → β)
    (hf : ∀ x y, le x y = s (f x) (f y)) (t : List α) :
    sortBy s (t.map f) = (sortBy le t).map f :=
  (List.map_mergeSort fun x _ y _ => hf x y).symm

theorem sortBy_flip (hle : TotalOrderB le) (t : List α) :
    sortBy (fun a b => le b a) t = (sortBy le t).reverse :=
  sortBy_unique hle.flip ((List.reverse_perm _).trans (sortBy_perm le t))
    (List.pairwise_reverse.mpr (sortBy_pairwise hle t))

theorem sortBy_append_eq_merge (hle : TotalOrderB le) (a b : List α) :
    sortBy le (a ++ b) = merge (sortBy le a) (sortBy le b) le :=
  sortBy_unique hle
    ((List.merge_perm_append (le := le)).trans ((sortBy_perm le a).append (sortBy_perm le b)))
    (List.pairwise_merge (le := le) hle.trans hle.total _ _ (sortBy_pairwise hle a)
      (sortBy_pairwise hle b))

theorem sortBy_of_lower_bound [DecidableEq α] (hle : TotalOrderB le) (m : α) (t : List α)
    (hm : ∀ x ∈ t, le m x = true) :
    sortBy le t = List.replicate (t.count m) m ++ sortBy le (t.filter (· ≠ m)) := by
  refine sortBy_unique hle ?_ ?_
  · rw [← List.filter_beq]
    refine (List.Perm.append_left _ (sortBy_perm le _)).trans ?_
    have := List.filter_append_perm (fun x => x == m) t
    simpa [_root_.beq_eq_decide] using this
  · rw [List.pairwise_append]
    refine ⟨List.pairwise_replicate.mpr (Or.inr (hle.refl m)), sortBy_pairwise hle _, ?_⟩
    intro a ha b hb
    rw [List.eq_of_mem_replicate ha]
    exact hm b (List.mem_filter.mp (mem_sortBy.mp hb)).1

/-- In a sorted list, the elements satisfying a downward-closed predicate form a prefix:
position `p` exists and satisfies `q` iff `p < #q`. -/
theorem sorted_any_iff_lt_countP {s : List α} (hs : s.Pairwise (fun a b => le a b = true))
    {q : α → Bool} (hq : ∀ x y, le x y = true → q y = true → q x = true) (p : Nat) :
    s[p]?.any q = true ↔ p < s.countP q := by
  induction s generalizing p with
  | nil => exact ⟨fun h => Bool.noConfusion h, fun h => absurd h (Nat.not_lt_zero p)⟩
  | cons a s ih =>
    rw [List.pairwise_cons] at hs
    by_cases hqa : q a = true
    · rw [List.countP_cons_of_pos hqa]
      cases p with
      | zero => exact ⟨fun _ => Nat.succ_pos _, fun _ => hqa⟩
      | succ p => rw [List.getElem?_cons_succ, ih hs.2 p, Nat.succ_lt_succ_iff]
    · -- `a` is a lower bound, so nothing satisfies `q`
      have hall : ∀ y ∈ a :: s, ¬ q y = true := by
        intro y hy hqy
        rcases List.mem_cons.mp hy with rfl | hy
        exacts [hqa hqy, hqa (hq a y (hs.1 y hy) hqy)]
      rw [List.countP_eq_zero.mpr hall, Option.any_eq_true]
      exact ⟨fun ⟨x, hx, hqx⟩ => (hall x (List.mem_of_getElem? hx) hqx).elim,
        fun h => absurd h (Nat.not_lt_zero p)⟩

/-- `≤` on `Int`, the order of the concrete instances (C03, C05; `exLe` of C02, `leInt` of the evaluator
model and `leI` of the driver are the same function under other names) -/
def leZ (x y : Int) : Bool := decide (x ≤ y)

theorem leZ_total : TotalOrderB leZ where
  refl a := decide_eq_true (Int.le_refl a)
  trans a b c := by simp only [leZ, decide_eq_true_eq]; exact Int.le_trans
  total a b := by simp only [leZ, Bool.or_eq_true, decide_eq_true_eq]; exact Int.le_total a b
  antisymm a b := by simp only [leZ, decide_eq_true_eq]; exact Int.le_antisymm

theorem leZ_lt_iff (x y : Int) : (leZ x y = true ∧ x ≠ y) ↔ x < y := by
  simp only [leZ, decide_eq_true_eq]; exact Int.lt_iff_le_and_ne.symm

end Dyce
