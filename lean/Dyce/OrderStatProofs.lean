import Dyce.OrderStatModel
import Dyce.HistProofs
import Dyce.Binomial

/-! `H.order_stat_for_n_at_pos` and `H.exactly_k_times_in_n` against enumeration.  Order statistics
rest on `sorted_pos_iff` (position in the sorted roll ↔ two counts), the binomial counts on the
binomial split (`wsum_tuples_face`), applied to any function of the number of dice showing the face
(`wsum_tuples_count_fn`). -/
namespace Dyce

section
variable {α : Type} {le : α → α → Bool}

/-- the `beta` histograms count, over all rolls, how many dice satisfy the comparison -/
theorem wsum_betaHist {q : α → Bool} {n : Nat} (hn : 0 < n) (h : Hist α) (G : Nat → Nat) :
    wsum (betaHist q n h) G = wsum (tuples h n) (fun t => G (t.countP q)) := by
  rw [betaHist, wsum_matmulH, if_neg (Nat.ne_of_gt hn), wsum_tuples_map _ (wsum_umapH natLe _ h)]
  simp only [← List.sum_eq_foldl, ← length_filter_eq_sum, Bool.decide_eq_true,
    ← List.countP_eq_length_filter]

theorem indicator_between {A B : Nat} (pos : Nat) (hBA : B ≤ A) :
    (if A > pos then 1 else 0)
      = (if B ≤ pos ∧ pos < A then 1 else 0) + (if B > pos then 1 else 0) := by
  by_cases hB : B > pos
  · rw [if_pos (Nat.lt_of_lt_of_le hB hBA), if_neg fun h => Nat.not_lt.mpr h.1 hB, if_pos hB]
  · rw [if_neg hB, Nat.add_zero]
    exact if_congr (and_iff_right (Nat.not_lt.mp hB)).symm rfl rfl

end

section
variable {α : Type} [DecidableEq α] {le : α → α → Bool}

/-- **order statistic ↔ counting**: the element at position `pos` of the sorted roll is `f` iff
at most `pos` elements are `< f` and more than `pos` are `≤ f`. -/
theorem sorted_pos_iff (hle : TotalOrderB le) (t : List α) (f : α) (pos : Nat) :
    (sortBy le t)[pos]? = some f ↔
      t.countP (fun x => le x f && !(x == f)) ≤ pos ∧ pos < t.countP (fun x => le x f) := by
  -- both `· ≤ f` and `· < f` are downward closed
  have hq1 : ∀ x y, le x y = true → le y f = true → le x f = true := fun x y => hle.trans x y f
  have hq2 : ∀ x y, le x y = true → (le y f && !(y == f)) = true → (le x f && !(x == f)) = true := by
    simp only [Bool.and_eq_true, Bool.not_eq_true', beq_eq_false_iff_ne]
    exact fun x y hxy hy =>
      ⟨hq1 x y hxy hy.1, fun hxf => hy.2 (hle.antisymm y f hy.1 (hxf ▸ hxy))⟩
  have hs := sortBy_pairwise hle t
  rw [← (sortBy_perm le t).countP_eq, ← (sortBy_perm le t).countP_eq, ← Nat.not_lt,
    ← sorted_any_iff_lt_countP hs hq1, ← sorted_any_iff_lt_countP hs hq2]
  -- `x = f ↔ ¬ x < f ∧ x ≤ f`
  cases (sortBy le t)[pos]? with
  | none => simp
  | some x =>
    simp only [Option.some.injEq, Option.any_some, Bool.and_eq_true, Bool.not_eq_true',
      beq_eq_false_iff_ne, not_and, not_not]
    exact ⟨fun h => ⟨fun _ => h, h ▸ hle.refl f⟩, fun h => h.1 h.2⟩

/-- **C09, order statistics**: the closed form (difference of two cumulative tails) counts exactly
the rolls whose `pos`-th smallest die shows `f`. -/
theorem orderStatCount_correct (hle : TotalOrderB le) (h : Hist α) (n : Nat) (hn : 0 < n)
    (pos : Nat) (f : α) :
    orderStatCount le h n pos f
      = wsum (tuples h n) (fun t => if (sortBy le t)[pos]? = some f then 1 else 0) := by
  have hmono : ∀ t : List α,
      t.countP (fun x => le x f && !(x == f)) ≤ t.countP (fun x => le x f) :=
    fun t => List.countP_mono_left fun x _ hx => (Bool.and_eq_true _ _ ▸ hx).1
  rw [orderStatCount, wsum_betaHist hn, wsum_betaHist hn]
  -- pointwise `[pos < #≤] = [sorted[pos] = f] + [pos < #<]`
  simp only [sorted_pos_iff hle, fun t => indicator_between pos (hmono t), wsum_add]
  exact Nat.add_sub_cancel _ _

/-- `order_stat_for_n_at_pos` lists every face of `h` once, with its `orderStatCount` -/
theorem countOf_orderStat (h : Hist α) (hd : (h.map Prod.fst).Nodup) (n pos : Nat) (f : α)
    (hf : f ∈ h.map Prod.fst) :
    countOf f (orderStat le h n pos) = orderStatCount le h n pos f := by
  obtain ⟨e, he, rfl⟩ := List.mem_map.mp hf
  rw [orderStat, countOf_ofItems]
  exact countOf_of_mem_nodup (e := (e.1, orderStatCount le h n pos e.1))
    (by rw [List.map_map]; exact hd) (List.mem_map_of_mem he)

theorem sum_positions_pointwise (t : List α) (f : α) (n : Nat) (hn : t.length = n) :
    (((List.range n).map fun pos => if (sortBy le t)[pos]? = some f then 1 else 0).sum : Nat)
      = t.count f := by
  rw [← (sortBy_perm le t).count_eq, ← hn, ← (sortBy_perm le t).length_eq]
  generalize sortBy le t = s
  induction s with
  | nil => rfl
  | cons a s ih =>
    -- position `0` reads `a`, position `pos + 1` reads `s[pos]`
    rw [List.length_cons, List.range_succ_eq_map, List.map_cons, List.map_map, List.sum_cons,
      List.count_cons, ← ih, Nat.add_comm]
    simp only [Function.comp_def, List.getElem?_cons_zero, List.getElem?_cons_succ,
      Option.some.injEq, beq_iff_eq]

/-- **binomial law of the number of dice showing `o`**, against any test function -/
theorem wsum_tuples_count_fn (h : Hist α) (o : α) (n : Nat) (Φ : Nat → Nat) :
    wsum (tuples h n) (fun t => Φ (t.count o))
      = ∑ i ∈ Finset.range (n + 1), exactlyK h o n i * Φ i := by
  have htot : total h = countOf o h + total (h.filter (·.1 ≠ o)) := by
    rw [total_eq_wsum, wsum_split_face o h, wsum_cons, ← total_eq_wsum, mul_one]
  rw [wsum_tuples_face h o n fun i _ => Φ i]
  refine Finset.sum_congr rfl fun i _ => ?_
  -- `exactlyK h o n i` is `headCount (total h) (countOf o h) n i`
  rw [choose_mul_wsum_tuples_const, ← htot]
  rfl

/-- **C09, binomial head counts**: `exactly_k_times_in_n` counts the rolls in which exactly `k` of
the `n` dice show `o` (any `o`: present, absent or zero-count). -/
theorem exactlyK_correct (h : Hist α) (o : α) (n k : Nat) (hk : k ≤ n) :
    exactlyK h o n k = wsum (tuples h n) (fun t => if t.count o = k then 1 else 0) := by
  rw [wsum_tuples_count_fn h o n (fun i => if i = k then 1 else 0)]
  simp only [mul_ite, Nat.mul_one, Nat.mul_zero, Finset.sum_ite_eq', Finset.mem_range,
    Nat.lt_succ_of_le hk, if_true]

end

end Dyce
