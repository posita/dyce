import Dyce.EvalSpecProofs
/-! Fuel independence for whole-number limits: when every limit in play is a whole number `≤ N`,
the nesting depth never exceeds `N`, so any two fuels that leave room for `N + 1` nested evaluations
give the same result — the fuel (standing for the interpreter stack) is then not observable. -/
namespace Dyce

variable {α ρ : Type}

/-- a limit argument (or inherited limit) that is absent or a whole number `≤ N` -/
def LimOK (N : Nat) (lim : Option Limit) : Prop := ∀ l, lim = some l → ∃ n, n ≤ N ∧ l = .int n

/-- every nested evaluation a callback program can request carries an absent or whole-number limit `≤ N` -/
inductive Prog.LimBounded (N : Nat) : Prog α ρ → Prop where
  | ret (r : Ret α) : Prog.LimBounded N (.ret r)
  | throw (e : Err) : Prog.LimBounded N (.throw e)
  | call (fn : Nat) (srcs : List (Src ρ)) (lim : Option Limit) (k : Hist α → Prog α ρ)
      (hl : LimOK N lim) (hk : ∀ h, Prog.LimBounded N (k h)) : Prog.LimBounded N (.call fn srcs lim k)

theorem LimOK_none {N : Nat} : LimOK N none :=
  fun _ hl => nomatch hl

theorem LimOK_some_int {N n : Nat} (hn : n ≤ N) : LimOK N (some (.int n)) :=
  fun _ hl => ⟨n, hn, (Option.some.inj hl).symm⟩

/-- the limit in force — own, else inherited, else the default 1 — is a whole number `≤ N` -/
theorem LimOK.inForce {N : Nat} (hN : 1 ≤ N) {lim inh : Option Limit} (hlim : LimOK N lim)
    (hinh : LimOK N inh) : ∃ n, n ≤ N ∧ (lim.orElse fun _ => inh).getD (.int 1) = .int n := by
  cases lim with
  | some l => exact hlim l rfl
  | none =>
    cases inh with
    | some l => exact hinh l rfl
    | none => exact ⟨1, hN, rfl⟩

theorem specProg_congr {N : Nat} {sv₁ sv₂ : Nat → List (Src ρ) → Option Limit → Ctx → Except Err (Hist α)}
    {ctx : Ctx} (hsv : ∀ fn srcs lim, LimOK N lim → sv₁ fn srcs lim ctx = sv₂ fn srcs lim ctx)
    {p : Prog α ρ} (hp : p.LimBounded N) : specProg sv₁ ctx p = specProg sv₂ ctx p := by
  induction hp with
  | ret r => rfl
  | throw e => rfl
  | call fn srcs lim k hl _ ih =>
    simp only [specProg, hsv fn srcs lim hl]
    split
    · exact ih _
    · rfl

/-- an evaluation entered below the limit `n ≤ N` leaves room for its nested evaluations, one level down -/
theorem fuel_room {N n d f : Nat} (hn : n ≤ N) (hd : d < n) (h : N + 1 ≤ f + 1 + d) :
    1 ≤ f ∧ N + 1 ≤ f + (d + 1) := by
  omega

/-- **fuel independence**: all limits whole numbers `≤ N` ⇒ the result does not depend on the fuel,
as long as it leaves room for the `N + 1 - depth` nested evaluations that can still happen -/
theorem specEval_fuel_indep (env : Nat → Fn α ρ) (agg : List (Ret α × Nat) → Hist α)
    (lowest : Hist α → Hist α) (N : Nat) (hN : 1 ≤ N)
    (henv : ∀ fn args, ((env fn).body args).LimBounded N)
    (fuel₁ fuel₂ fn : Nat) (srcs : List (Src ρ)) (lim : Option Limit) (cur : Ctx)
    (hlim : LimOK N lim) (hcur : LimOK N cur.limit)
    (h₁ : 1 ≤ fuel₁ ∧ N + 1 ≤ fuel₁ + cur.depth) (h₂ : 1 ≤ fuel₂ ∧ N + 1 ≤ fuel₂ + cur.depth) :
    specEval env agg lowest fuel₁ fn srcs lim cur = specEval env agg lowest fuel₂ fn srcs lim cur := by
  induction fuel₁ generalizing fuel₂ fn srcs lim cur with
  | zero => exact absurd h₁.1 (Nat.not_succ_le_zero 0)
  | succ f₁ ih =>
    obtain ⟨f₂, rfl⟩ := Nat.exists_eq_add_one.mpr h₂.1
    obtain ⟨n, hn, hnl⟩ := LimOK.inForce hN hlim hcur
    rw [specEval_succ hnl, specEval_succ hnl]
    by_cases hcut : cutNow (.int n) cur = true
    · rw [if_pos hcut, if_pos hcut]
    · rw [if_neg hcut, if_neg hcut, foldl_specBranch_congr _ (specEval env agg lowest f₂)]
      rw [cutNow_int] at hcut
      intro bw _
      exact specProg_congr (fun fn' srcs' lim' hl' =>
        ih f₂ fn' srcs' lim' _ hl' (LimOK_some_int hn) (fuel_room hn (Nat.lt_of_not_le hcut) h₁.2)
          (fuel_room hn (Nat.lt_of_not_le hcut) h₂.2))
        (henv fn bw.1)

end Dyce
