import Dyce.Karonen
import Dyce.Selection
import Dyce.Window
import Dyce.Groups

/-! `P.rolls_with_counts` in push form (C02 for every test function).  Each enumerator call presents
a window of the sorted tuple (`wsum_rwcHomogRaw`); per-group windows, concatenated, push forward to
the Cartesian product (`wsum_combos_map`); so every strategy serves any read-out that only sees the
window (`wsum_rawRolls`), and the final `getitems` is such a read-out (`readOut_seesWindow`). -/
namespace Dyce

variable {α : Type} {le : α → α → Bool}

/-- The final `getitems` only sees the window: the selected positions lie inside it
(`analyze_window`); without a selection the window is everything. -/
theorem readOut_seesWindow (le : α → α → Bool) {N : Nat} (idxs? : Option (List Nat))
    (hlt : ∀ idxs, idxs? = some idxs → ∀ j ∈ idxs, j < N)
    (hi0 : strategyOf N idxs? ≠ some 0) (F : List (Option α) → Nat) :
    SeesWindow le (strategyOf N idxs?) N (fun x => F (readOut idxs? x)) := by
  rcases idxs? with _ | idxs
  · exact seesWindow_full le (Int.natAbs_natCast N).ge _
  · simp only [strategyOf, readOut] at hi0 ⊢
    rcases hi : analyze N idxs with _ | k
    · exact fun _ _ => rfl
    · obtain ⟨hlow, hhigh⟩ := analyze_window N idxs (hlt idxs rfl) k hi
      exact takeIdxs_seesWindow le N (fun h => hi0 (by rw [hi, h])) hlow hhigh F

variable [DecidableEq α]

theorem wsum_rwcHomogRaw (hle : TotalOrderB le) (h : Hist α) (hs : Asc le h) (hT : 0 < total h)
    (n : Nat) (k : Int) (hk0 : k ≠ 0) (hkn : k.natAbs ≤ n) (H : List α → Nat) :
    wsum (rwcHomogRaw n h k) H = wsum (tuples h n) (fun t => H (window le (some k) t)) := by
  have hg : ¬ (k.natAbs = 0 ∨ k.natAbs > n) :=
    not_or.mpr ⟨fun h => hk0 (Int.natAbs_eq_zero.mp h), Nat.not_lt.mpr hkn⟩
  simp only [rwcHomogRaw, window, lowK, hg, if_false]
  split
  · rw [wsum_rwcHomogHigh hle h hs hT n _ hkn]
    apply wsum_congr
    intro tw htw
    rw [(mem_tuples htw).1]
  · exact wsum_rwcHomogLow hle h hs hT n _ hkn H

/-- the `k` that `_rwc_heterogeneous_h_groups` hands to a group of `n` dice: `k` itself if it selects fewer
than `n`, else the whole group -/
def clampK (k : Option Int) (n : Nat) : Int :=
  match k with
  | some k' => if k' ≠ 0 ∧ k'.natAbs < n then k' else n
  | none => n

theorem wsum_rwcHomogRaw_clampK (hle : TotalOrderB le) (k : Option Int) (hk : k ≠ some 0) (g : Hist α × Nat)
    (hg : GroupOK le g) (H : List α → Nat) :
    wsum (rwcHomogRaw g.2 g.1 (clampK k g.2)) H
      = wsum (tuples g.1 g.2) (fun t => H (window le k t)) := by
  obtain ⟨hn, hs, hT⟩ := hg
  -- a whole group: the window of width `g.2` is the whole sorted tuple
  have hfull : ∀ k' : Option Int, (∀ j, k' = some j → g.2 ≤ j.natAbs) →
      wsum (rwcHomogRaw g.2 g.1 (g.2 : Int)) H
        = wsum (tuples g.1 g.2) (fun t => H (window le k' t)) := by
    intro k' hk'
    rw [wsum_rwcHomogRaw hle g.1 hs hT g.2 g.2 (Int.natCast_ne_zero.mpr hn.ne')
      (Int.natAbs_natCast g.2).le]
    apply wsum_congr
    intro tw htw
    have hl := (mem_tuples htw).1
    rw [window_of_length_le le (by rw [Int.natAbs_natCast, hl])]
    rcases k' with _ | j
    · rfl
    · rw [window_of_length_le le (hl ▸ hk' j rfl)]
  rcases k with _ | k
  · exact hfull none (fun _ h => nomatch h)
  · simp only [clampK]
    split
    · next hc => exact wsum_rwcHomogRaw hle g.1 hs hT g.2 k hc.1 hc.2.le H
    · next hc =>
      exact hfull (some k) fun j hj => by
        obtain rfl := Option.some.inj hj
        exact Nat.not_lt.mp fun h => hc ⟨fun h0 => hk (by rw [h0]), h⟩

/-- The heterogeneous strategy, under any read-out that only sees the window, sums like the sorted
Cartesian product.  (`SeesWindow` speaks of partial rolls of at most `N` outcomes: the bound is
what makes the right-aligned padding `N - length` meaningful.) -/
theorem wsum_rwcHetero (hle : TotalOrderB le) (g : Hist α × Nat) (gs : List (Hist α × Nat))
    (hg : ∀ g' ∈ g :: gs, GroupOK le g') (k : Option Int) (hk : k ≠ some 0)
    (ρ : List (Option α) → Nat) (hρ : SeesWindow le k (expand (g :: gs)).length ρ) :
    wsum (rwcHetero le (g :: gs) k) ρ
      = wsum (poolTuples (expand (g :: gs))) (fun t => ρ ((sortBy le t).map some)) := by
  have hrw : rwcHetero le (g :: gs) k
      = (combos ((g :: gs).map fun g' => rwcHomogRaw g'.2 g'.1 (clampK k g'.2))).map fun e =>
          (pad k ((expand (g :: gs)).length - ((sortBy le e.1).map some).length)
            ((sortBy le e.1).map some), e.2) := by
    -- `rwcHetero` computes the number of dice as the sum of the group sizes and pads by `match` on `k`
    rw [expand_length]
    rcases k with _ | k <;> rfl
  rw [hrw, wsum_map_fst _ fun s =>
    pad k ((expand (g :: gs)).length - ((sortBy le s).map some).length) ((sortBy le s).map some)]
  simp only [List.length_map, sortBy_length]
  have hp := wsum_combos_map (fun g' => rwcHomogRaw g'.2 g'.1 (clampK k g'.2)) (window le k)
    (fun s => ρ (pad k ((expand (g :: gs)).length - s.length) ((sortBy le s).map some)))
    (expand (g :: gs)).length (window_length_le le k)
    (fun a t u hlen => by
      have hw : (a ++ (window le k t ++ u)).length ≤ (a ++ (t ++ u)).length := by
        simp only [List.length_append]
        exact Nat.add_le_add_left (Nat.add_le_add_right (window_length_le le k t) _) _
      rw [hρ _ (Nat.le_trans hw hlen), hρ _ hlen, window_middle hle])
    (g :: gs) (fun g' hg' H => wsum_rwcHomogRaw_clampK hle k hk g' (hg g' hg') H) [] (Nat.zero_add _).le
  simp only [List.nil_append] at hp
  rw [hp]
  apply wsum_congr
  intro tw htw
  rw [mem_poolTuples_length htw, Nat.sub_self, pad_zero]

theorem wsum_rawRolls_homog (hle : TotalOrderB le) (dice : List (Hist α)) (h : Hist α) (n : Nat)
    (hgs : groupsOf dice = [(h, n)]) (hg : GroupOK le (h, n)) (i : Option Int)
    (ρ : List (Option α) → Nat) (hρ : SeesWindow le i dice.length ρ) :
    wsum (rawRolls le dice i) ρ
      = wsum (poolTuples dice) (fun t => ρ ((sortBy le t).map some)) := by
  obtain ⟨hn, hs, hT⟩ := hg
  obtain rfl : dice = List.replicate n h := by
    have := expand_groupsOf dice
    rw [hgs, expand_cons] at this
    exact this.symm.trans (List.append_nil _)
  rw [List.length_replicate] at hρ
  have hfull : wsum ((rwcHomogRaw n h n).map fun e => (e.1.map some, e.2)) ρ
      = wsum (tuples h n) (fun t => ρ ((sortBy le t).map some)) := by
    rw [wsum_map_fst _ (fun s : List α => s.map some)]
    exact wsum_rwcHomogRaw_clampK hle none (fun h => nomatch h) (h, n) ⟨hn, hs, hT⟩ _
  unfold rawRolls
  rw [hgs, List.length_replicate, poolTuples_replicate]
  rcases i with _ | k
  · exact hfull
  · simp only
    split
    · next hpart =>
      -- partial selection: only the window is enumerated, the rest is padding
      have hrw : rwcHomogFill n h k = (rwcHomogRaw n h k).map fun e =>
          (pad (some k) (n - k.natAbs) (e.1.map some), e.2) := rfl
      rw [hrw, wsum_map_fst _ fun s : List α => pad (some k) (n - k.natAbs) (s.map some),
        wsum_rwcHomogRaw hle h hs hT n k hpart.1 hpart.2.le]
      apply wsum_congr
      intro tw htw
      have hl := (mem_tuples htw).1
      have := hρ tw.1 hl.le
      rw [hl, Nat.sub_self, pad_zero, window_length le (hl ▸ hpart.2.le)] at this
      exact this.symm
    · exact hfull

/-- **Every strategy the dispatcher can pick** presents the sorted Cartesian product to any
read-out that only sees the window. -/
theorem wsum_rawRolls (hle : TotalOrderB le) (dice : List (Hist α)) (hne : dice ≠ [])
    (hd : DiceOK le dice) {i : Option Int} (hi0 : i ≠ some 0) {ρ : List (Option α) → Nat}
    (hρ : SeesWindow le i dice.length ρ) :
    wsum (rawRolls le dice i) ρ
      = wsum (poolTuples dice) (fun t => ρ ((sortBy le t).map some)) := by
  have hgok := groups_ok dice hd
  have hexp := expand_groupsOf dice
  rcases hgs : groupsOf dice with _ | ⟨g₁, _ | ⟨g₂, gs⟩⟩
  · rw [hgs] at hexp
    exact absurd hexp.symm hne
  · exact wsum_rawRolls_homog hle dice g₁.1 g₁.2 hgs (hgok g₁ (hgs ▸ List.mem_cons_self)) i ρ hρ
  · have hraw : rawRolls le dice i = rwcHetero le (g₁ :: g₂ :: gs) i := by
      unfold rawRolls; rw [hgs]
    rw [hgs] at hexp hgok
    subst hexp
    rw [hraw]
    exact wsum_rwcHetero hle g₁ (g₂ :: gs) hgok i hi0 ρ hρ

/-- `rolls_with_counts` once `which` has been resolved: `idxs? = none` for no argument -/
def rwcResolved (le : α → α → Bool) (dice : List (Hist α)) (idxs? : Option (List Nat)) :
    List (List (Option α) × Nat) :=
  if strategyOf dice.length idxs? = some 0 ∨ dice.length = 0 then []
  else finishRolls idxs? (rawRolls le dice (strategyOf dice.length idxs?))

theorem rollsWithCounts_nil (le : α → α → Bool) (dice : List (Hist α)) :
    rollsWithCounts le dice [] = .ok (rwcResolved le dice none) := by
  unfold rollsWithCounts rwcResolved
  simp only [bind, Except.bind, pure, Except.pure, strategyOf]
  exact (apply_ite Except.ok _ _ _).symm

theorem rollsWithCounts_cons (le : α → α → Bool) (dice : List (Hist α)) {s : Sel} {ss : List Sel}
    {idxs : List Nat} (hres : resolve dice.length (s :: ss) = .ok idxs) :
    rollsWithCounts le dice (s :: ss) = .ok (rwcResolved le dice (some idxs)) := by
  unfold rollsWithCounts rwcResolved
  simp only [hres, Except.map, bind, Except.bind, pure, Except.pure, strategyOf]
  exact (apply_ite Except.ok _ _ _).symm

theorem rollsWithCounts_cons_error (le : α → α → Bool) (dice : List (Hist α)) {s : Sel} {ss : List Sel}
    {e : PyErr} (hres : resolve dice.length (s :: ss) = .error e) :
    rollsWithCounts le dice (s :: ss) = .error e := by
  unfold rollsWithCounts
  simp only [hres, Except.map, bind, Except.bind]

/-- **C02** in push form: without an argument the whole sorted roll is returned, otherwise the
resolved positions are read. -/
theorem wsum_rwcResolved (hle : TotalOrderB le) (dice : List (Hist α)) (hd : DiceOK le dice)
    (idxs? : Option (List Nat)) (hlt : ∀ idxs, idxs? = some idxs → ∀ j ∈ idxs, j < dice.length)
    (F : List (Option α) → Nat) :
    wsum (rwcResolved le dice idxs?) F =
      if idxs? = some [] ∨ dice = [] then 0
      else wsum (poolTuples dice) fun t => F (readOut idxs? ((sortBy le t).map some)) := by
  have hz : (strategyOf dice.length idxs? = some 0 ∨ dice.length = 0)
      ↔ (idxs? = some [] ∨ dice = []) := by
    rw [List.length_eq_zero_iff]
    rcases idxs? with _ | idxs
    · simp [strategyOf, List.length_eq_zero_iff]
    · simp only [strategyOf, Option.some.injEq]
      exact or_congr_left (analyze_zero_iff (hlt idxs rfl))
  unfold rwcResolved
  by_cases h0 : idxs? = some [] ∨ dice = []
  · rw [if_pos (hz.mpr h0), if_pos h0]; rfl
  · have hi0 : strategyOf dice.length idxs? ≠ some 0 := fun h => h0 (hz.mp (Or.inl h))
    rw [if_neg (mt hz.mp h0), if_neg h0, wsum_finishRolls]
    exact wsum_rawRolls hle dice (fun h => h0 (Or.inr h)) hd hi0
      (readOut_seesWindow le idxs? hlt hi0 F)

theorem rollsWithCounts_nil_wsum (hle : TotalOrderB le) (dice : List (Hist α))
    (hd : DiceOK le dice) :
    ∃ L, rollsWithCounts le dice [] = .ok L ∧
      ∀ F, wsum L F =
        if dice = [] then 0 else wsum (poolTuples dice) fun t => F ((sortBy le t).map some) :=
  ⟨_, rollsWithCounts_nil le dice, fun F =>
    (wsum_rwcResolved hle dice hd none (fun _ h => nomatch h) F).trans (by simp [readOut])⟩

theorem rollsWithCounts_cons_wsum (hle : TotalOrderB le) (dice : List (Hist α))
    (hd : DiceOK le dice) (s : Sel) (ss : List Sel) (idxs : List Nat)
    (hres : resolve dice.length (s :: ss) = .ok idxs) :
    ∃ L, rollsWithCounts le dice (s :: ss) = .ok L ∧
      ∀ F, wsum L F = if idxs = [] ∨ dice = [] then 0 else wsum (poolTuples dice) fun t =>
        F (takeIdxs ((sortBy le t).map some) idxs) :=
  ⟨_, rollsWithCounts_cons le dice hres, fun F =>
    (wsum_rwcResolved hle dice hd (some idxs)
      (fun _ h => Option.some.inj h ▸ resolve_lt hres) F).trans
      (by simp [readOut])⟩

end Dyce
