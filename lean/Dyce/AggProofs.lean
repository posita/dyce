import Dyce.AggModel
import Dyce.WSum
import Mathlib.Data.Rat.Cast.Order

/-! `aggregate_weighted` computes the exact renormalised mixture (C06).  The loop re-scales what it
has accumulated whenever a histogram branch arrives; what stays put is, for every weight `f`, the
normalised sum `wsum acc f / scalar`, which grows by `cnt · brW f branch` per step. -/
namespace Dyce

/-- a branch result as `aggregate_weighted` receives it: a bare outcome or a histogram -/
abbrev Br := Ret

section
variable {α : Type}

/-- does the branch survive (non-empty)? -/
def brKept : Br α → ℚ
  | .out _ => 1
  | .hist h => if total h = 0 then 0 else 1

/-- expected value of the weight `f` on a branch (0 for a dropped branch): `brProb z` and `brKept`
are the cases `f = [· = z]` and `f = 1` -/
def brW (f : α → Nat) : Br α → ℚ
  | .out o => f o
  | .hist h => if total h = 0 then 0 else (wsum h f : ℚ) / (total h : ℚ)

theorem aggStep_dropped (st : Nat × List (α × Nat)) {h : Hist α} (c : Nat) (h0 : total h = 0) :
    aggStep st (.hist h, c) = st := if_pos h0

theorem aggStep_wsum (st : Nat × List (α × Nat)) (b : Br α × Nat) (f : α → Nat) (hpos : 0 < st.1) :
    0 < (aggStep st b).1 ∧
    (wsum (aggStep st b).2 f : ℚ) / (aggStep st b).1
      = (wsum st.2 f : ℚ) / st.1 + (b.2 : ℚ) * brW f b.1 := by
  have hs : (st.1 : ℚ) ≠ 0 := Nat.cast_ne_zero.mpr hpos.ne'
  obtain ⟨_ | h, cnt⟩ := b
  · refine ⟨hpos, ?_⟩
    simp only [aggStep, brW, wsum_append, wsum_cons, wsum_nil, add_zero, Nat.cast_add, Nat.cast_mul]
    rw [div_add' _ _ _ hs, mul_right_comm]
  · by_cases h0 : total h = 0
    · simp only [aggStep_dropped st cnt h0, brW, h0, if_true, mul_zero, add_zero, hpos, and_self]
    · have hT : (total h : ℚ) ≠ 0 := Nat.cast_ne_zero.mpr h0
      simp only [aggStep, brW, h0, if_false, wsum_append, Nat.mul_comm _ (total h),
        wsum_map_scale _ (fun a => a), Nat.cast_add, Nat.cast_mul]
      refine ⟨Nat.mul_pos (Nat.pos_of_ne_zero h0) hpos, ?_⟩
      rw [add_div, mul_div_mul_left _ _ hT, mul_right_comm, mul_div_mul_right _ _ hs, mul_div_assoc]

theorem agg_wsum (brs : List (Br α × Nat)) (st : Nat × List (α × Nat)) (f : α → Nat)
    (hpos : 0 < st.1) :
    0 < (brs.foldl aggStep st).1 ∧
    (wsum (brs.foldl aggStep st).2 f : ℚ) / (brs.foldl aggStep st).1
      = (wsum st.2 f : ℚ) / st.1 + (brs.map fun b => (b.2 : ℚ) * brW f b.1).sum := by
  induction brs generalizing st with
  | nil => exact ⟨hpos, (add_zero _).symm⟩
  | cons b brs ih =>
    obtain ⟨h1, h2⟩ := aggStep_wsum st b f hpos
    obtain ⟨h3, h4⟩ := ih _ h1
    exact ⟨h3, by rw [List.foldl_cons, h4, h2, List.map_cons, List.sum_cons, add_assoc]⟩

theorem aggregate_wsum (brs : List (Br α × Nat)) (f : α → Nat) :
    0 < (aggregate brs).1 ∧
    (wsum (aggregate brs).2 f : ℚ)
      = (aggregate brs).1 * (brs.map fun b => (b.2 : ℚ) * brW f b.1).sum := by
  obtain ⟨h1, h2⟩ := agg_wsum brs (1, []) f Nat.one_pos
  rw [div_eq_iff (by exact_mod_cast h1.ne'), wsum_nil, Nat.cast_zero, zero_div, zero_add,
    mul_comm] at h2
  exact ⟨h1, h2⟩

theorem brKept_eq_brW (b : Br α) : brKept b = brW (fun _ => 1) b := by
  cases b with
  | out o => simp [brKept, brW]
  | hist h =>
    simp only [brKept, brW, ← total_eq_wsum]
    split
    · rfl
    · rw [div_self]; exact_mod_cast ‹_›

/-- **C06**: the total of the aggregate is `S * Σ_i cnt_i · [branch i is kept]` -/
theorem aggregate_total (brs : List (Br α × Nat)) :
    (total (aggregate brs).2 : ℚ)
      = (aggregate brs).1 * (brs.map fun b => (b.2 : ℚ) * brKept b.1).sum := by
  simp only [brKept_eq_brW, total_eq_wsum]; exact (aggregate_wsum brs _).2

end

variable {α : Type} [DecidableEq α]

/-- probability that a branch yields `z` -/
def brProb (z : α) : Br α → ℚ
  | .out o => if o = z then 1 else 0
  | .hist h => if total h = 0 then 0 else (countOf z h : ℚ) / (total h : ℚ)

theorem brProb_eq_brW (z : α) (b : Br α) :
    brProb z b = brW (fun x => if x = z then 1 else 0) b := by
  cases b with
  | out o => rw [brProb, brW, Nat.cast_ite, Nat.cast_one, Nat.cast_zero]
  | hist h => rfl

/-- **C06 core**: every count of the aggregate is `S * Σ_i cnt_i * P_i(z)`, `S > 0`. -/
theorem aggregate_count (brs : List (Br α × Nat)) (z : α) :
    0 < (aggregate brs).1 ∧
    (countOf z (aggregate brs).2 : ℚ)
      = (aggregate brs).1 * (brs.map fun b => (b.2 : ℚ) * brProb z b.1).sum := by
  simp only [brProb_eq_brW]; exact aggregate_wsum brs _

/-- **C06, the mixture**: the probability of `z` in the aggregate is the renormalised mixture
`Σ cnt_i·P_i(z) / Σ cnt_i·kept_i` (if no branch with positive weight is kept, both sides are `0`
by `x / 0 = 0`) -/
theorem aggregate_mixture (brs : List (Br α × Nat)) (z : α) :
    (countOf z (aggregate brs).2 : ℚ) / (total (aggregate brs).2 : ℚ)
      = (brs.map fun b => (b.2 : ℚ) * brProb z b.1).sum
          / (brs.map fun b => (b.2 : ℚ) * brKept b.1).sum := by
  obtain ⟨hS, hc⟩ := aggregate_count brs z
  rw [hc, aggregate_total, mul_div_mul_left _ _ (by exact_mod_cast hS.ne')]

end Dyce
