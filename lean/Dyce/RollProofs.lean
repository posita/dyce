import Dyce.RollModel
import Dyce.WSum

/-! C10: `random.choices` picks index `i` for exactly `weights[i]` of the `total` equally likely
integer parts of `random() * total`; `H.roll` / `P.roll` in the weighted-list monad have exactly
the encoded distribution. -/
namespace Dyce

/-- **how `choices` splits the answers**: the first `w` answers pick index 0, and answer `w + k` picks
one more than `k` picks among the remaining weights -/
theorem sum_pickIdx_cons (w : Nat) (ws : List Nat) (G : Nat → Nat) :
    ((List.range (w + ws.sum)).map fun u => G (pickIdx (w :: ws) u)).sum
      = w * G 0 + ((List.range ws.sum).map fun k => G (pickIdx ws k + 1)).sum := by
  rw [List.range_add, List.map_append, List.sum_append, List.map_map]
  refine congrArg₂ (· + ·) ?_ (congrArg List.sum (List.map_congr_left fun k _ => ?_))
  · rw [List.map_congr_left (g := fun _ => G 0) fun u hu => by
      rw [pickIdx, if_pos (List.mem_range.mp hu)]]
    rw [List.map_const', List.sum_replicate_nat, List.length_range]
  · rw [Function.comp, pickIdx, if_neg (Nat.not_lt.mpr (Nat.le_add_right w k)), Nat.add_sub_cancel_left,
      Nat.add_comm]

/-- the weight laws of the monad `W`.  Stated for `W.bind` / `W.pure`: `W β` unfolds to a `List`, so with
Mathlib loaded `wsum (x >>= f) F` elaborates `>>=` in the `List` monad unless `x >>= f` is ascribed
`W γ`; a term in `do` notation is first restated with `W.bind` by `rfl`, as in `wsum_rollDiceW` -/
theorem wsum_bindW {β γ} (x : W β) (f : β → W γ) (F : γ → Nat) :
    wsum (W.bind x f) F = wsum x (fun a => wsum (f a) F) :=
  wsum_flatMap_map x f (fun _ c => c) F

theorem wsum_pureW {β} (b : β) (F : β → Nat) : wsum (W.pure b) F = F b := by
  simp [W.pure, wsum]

/-- **`H.roll`**: outcome `o` carries exactly the weight `h[o]` out of `h.total` -/
theorem wsum_rollHist (h : Hist Int) (hT : total h ≠ 0) (F : Int → Nat) :
    wsum (rollHist h) F = wsum h F := by
  unfold rollHist
  rw [if_neg hT]
  exact wsum_filter_nonzero h F

theorem rollHist_zero_total (h : Hist Int) (hT : total h = 0) : rollHist h = [(0, 1)] := by
  unfold rollHist
  rw [if_pos hT]

/-- the per-die draws of `P.roll`, before sorting, are the Cartesian product of the dice -/
theorem wsum_rollDiceW (hs : List (Hist Int)) (hpos : ∀ h ∈ hs, total h ≠ 0) (F : List Int → Nat) :
    wsum (rollDiceW hs) F = wsum (poolTuples hs) F := by
  induction hs generalizing F with
  | nil => rfl
  | cons h hs ih =>
    have : rollDiceW (h :: hs)
        = W.bind (rollHist h) (fun v => W.bind (rollDiceW hs) (fun r => W.pure (v :: r))) := rfl
    rw [this, wsum_bindW, wsum_poolTuples_cons, wsum_rollHist h (hpos h List.mem_cons_self)]
    apply wsum_congr
    intro x _
    rw [wsum_bindW, ih (fun h' hh' => hpos h' (List.mem_cons_of_mem _ hh'))]
    apply wsum_congr
    intro t _
    rw [wsum_pureW]

/-- **`P.roll`**: the weight of every sorted roll is the weight the Cartesian product gives it —
i.e. (C02) exactly the count `rolls_with_counts()` reports, out of `P.total` -/
theorem wsum_rollPoolW (hs : List (Hist Int)) (hpos : ∀ h ∈ hs, total h ≠ 0) (F : List Int → Nat) :
    wsum (rollPoolW hs) F
      = wsum (poolTuples hs) (fun t => F (t.mergeSort fun a b => decide (a ≤ b))) := by
  have : rollPoolW hs = W.bind (rollDiceW hs) (fun vs => W.pure (vs.mergeSort fun a b => decide (a ≤ b))) := rfl
  rw [this, wsum_bindW, wsum_rollDiceW hs hpos]
  apply wsum_congr
  intro t _
  rw [wsum_pureW]

end Dyce
