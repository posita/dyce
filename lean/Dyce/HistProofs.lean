import Dyce.HistModel
import Dyce.WSum
import Dyce.Sort

/-! The constructor `H(items)` (`ofItems`) and the operations built on it, each characterised by
what it does to weighted sums (`wsum_ofItems`, `wsum_mapH`, `wsum_umapH`, `wsum_sumH`); the
constructor also by its keys (`mem_keys_ofItems_iff`) and their order (`asc_ofItems`); an ascending
histogram is determined by its keys and counts (`asc_ext`), hence `ofItems_perm`. -/
namespace Dyce

variable {α β γ : Type} {le : α → α → Bool}

theorem asc_keys_nodup {h : Hist α} (ha : Asc le h) : (h.map Prod.fst).Nodup :=
  List.pairwise_map.mpr (ha.imp And.right)

theorem asc_nodup {h : Hist α} (ha : Asc le h) : h.Nodup :=
  ha.imp fun hab e => hab.2 (congrArg Prod.fst e)

section
variable [DecidableEq α]

/-- merging two entries of one outcome does not change a sum that is additive in the count -/
theorem sum_insertAdd {M : Type} [AddCommMonoid M] (φ : α → Nat → M)
    (hφ : ∀ o c c', φ o (c + c') = φ o c + φ o c') (acc : Hist α) (o : α) (c : Nat) :
    ((insertAdd acc o c).map fun e => φ e.1 e.2).sum = (acc.map fun e => φ e.1 e.2).sum + φ o c := by
  induction acc with
  | nil => simp [insertAdd]
  | cons b acc ih =>
    unfold insertAdd
    split
    · rename_i h; subst h
      simp only [List.map_cons, List.sum_cons, hφ]; exact add_right_comm _ _ _
    · simp only [List.map_cons, List.sum_cons, ih, add_assoc]

/-- sorting and merging are invisible to every sum additive in the count -/
theorem sum_ofItems {M : Type} [AddCommMonoid M] (φ : α → Nat → M)
    (hφ : ∀ o c c', φ o (c + c') = φ o c + φ o c') (le : α → α → Bool) (items : List (α × Nat)) :
    ((ofItems le items).map fun e => φ e.1 e.2).sum = (items.map fun e => φ e.1 e.2).sum := by
  have key : ∀ (l : List (α × Nat)) (acc : Hist α),
      ((l.foldl (fun acc oc => insertAdd acc oc.1 oc.2) acc).map fun e => φ e.1 e.2).sum
        = (acc.map fun e => φ e.1 e.2).sum + (l.map fun e => φ e.1 e.2).sum := by
    intro l
    induction l with
    | nil =>
      intro acc
      simp
    | cons b l ih =>
      intro acc
      simp only [List.foldl_cons, ih, sum_insertAdd φ hφ, List.map_cons, List.sum_cons, add_assoc]
  unfold ofItems
  rw [key, List.map_nil, List.sum_nil, zero_add]
  exact ((List.mergeSort_perm items _).map _).sum_eq

theorem wsum_insertAdd (acc : Hist α) (o : α) (c : Nat) (G : α → Nat) :
    wsum (insertAdd acc o c) G = wsum acc G + c * G o :=
  sum_insertAdd (fun o c => c * G o) (fun _ _ _ => Nat.add_mul _ _ _) acc o c

theorem wsum_ofItems (le : α → α → Bool) (items : List (α × Nat)) (G : α → Nat) :
    wsum (ofItems le items) G = wsum items G :=
  sum_ofItems (fun o c => c * G o) (fun _ _ _ => Nat.add_mul _ _ _) le items

theorem countOf_ofItems (le : α → α → Bool) (items : List (α × Nat)) (z : α) :
    countOf z (ofItems le items) = countOf z items := wsum_ofItems le items _

theorem total_ofItems (le : α → α → Bool) (items : List (α × Nat)) :
    total (ofItems le items) = total items :=
  sum_ofItems (fun _ c => c) (fun _ _ _ => rfl) le items

theorem mem_keys_insertAdd_iff (acc : Hist α) (o : α) (c : Nat) (z : α) :
    z ∈ (insertAdd acc o c).map Prod.fst ↔ z ∈ acc.map Prod.fst ∨ z = o := by
  induction acc with
  | nil => simp only [insertAdd, List.map_cons, List.map_nil, List.mem_singleton, List.not_mem_nil,
      false_or]
  | cons b acc ih =>
    obtain ⟨o', c'⟩ := b
    rw [insertAdd]
    by_cases h : o' = o
    · subst h; simp only [if_true, List.map_cons, List.mem_cons, or_right_comm, or_self]
    · simp only [h, if_false, List.map_cons, List.mem_cons, ih, or_assoc]

theorem mem_keys_foldl_insertAdd (l : List (α × Nat)) (acc : Hist α) (z : α) :
    z ∈ (l.foldl (fun a oc => insertAdd a oc.1 oc.2) acc).map Prod.fst
      ↔ z ∈ acc.map Prod.fst ∨ z ∈ l.map Prod.fst := by
  induction l generalizing acc with
  | nil => exact (or_iff_left List.not_mem_nil).symm
  | cons x l ih =>
    rw [List.foldl_cons, ih, mem_keys_insertAdd_iff, List.map_cons, List.mem_cons, or_assoc]

theorem mem_keys_ofItems_iff (l : List (α × Nat)) (z : α) :
    z ∈ (ofItems le l).map Prod.fst ↔ z ∈ l.map Prod.fst := by
  unfold ofItems
  rw [mem_keys_foldl_insertAdd, List.map_nil, ((List.mergeSort_perm l _).map _).mem_iff]
  exact or_iff_right List.not_mem_nil

theorem asc_insertAdd (acc : Hist α) (o : α) (c : Nat) (hacc : Asc le acc)
    (hge : ∀ e ∈ acc, le e.1 o = true) : Asc le (insertAdd acc o c) := by
  induction acc with
  | nil => exact List.pairwise_singleton _ _
  | cons b acc ih =>
    obtain ⟨o', c'⟩ := b
    rw [insertAdd]
    unfold Asc at hacc ⊢
    rw [List.pairwise_cons] at hacc
    by_cases h : o' = o
    · rw [if_pos h, List.pairwise_cons]; exact hacc
    · rw [if_neg h, List.pairwise_cons]
      refine ⟨fun e he => ?_, ih hacc.2 fun e he => hge e (List.mem_cons_of_mem _ he)⟩
      rcases (mem_keys_insertAdd_iff acc o c e.1).mp (List.mem_map_of_mem he) with h1 | h1
      · obtain ⟨e', he', h2⟩ := List.mem_map.mp h1
        rw [← h2]; exact hacc.1 e' he'
      · rw [h1]; exact ⟨hge (o', c') List.mem_cons_self, h⟩

theorem asc_ofItems (hle : TotalOrderB le) (items : List (α × Nat)) : Asc le (ofItems le items) := by
  unfold ofItems
  have hsorted : (items.mergeSort (fun a b => le a.1 b.1)).Pairwise (fun a b => le a.1 b.1 = true) :=
    List.pairwise_mergeSort (le := fun a b : α × Nat => le a.1 b.1)
      (fun a b c => hle.trans a.1 b.1 c.1) (fun a b => hle.total a.1 b.1) items
  generalize items.mergeSort (fun a b => le a.1 b.1) = l at hsorted
  have key : ∀ (l : List (α × Nat)) (acc : Hist α), Asc le acc →
      l.Pairwise (fun a b => le a.1 b.1 = true) →
      (∀ k ∈ acc.map Prod.fst, ∀ x ∈ l, le k x.1 = true) →
      Asc le (l.foldl (fun acc oc => insertAdd acc oc.1 oc.2) acc) := by
    intro l
    induction l with
    | nil => intro acc h _ _; exact h
    | cons x l ih =>
      intro acc hacc hl hge
      rw [List.pairwise_cons] at hl
      refine ih _ (asc_insertAdd acc x.1 x.2 hacc fun e he =>
        hge e.1 (List.mem_map_of_mem he) x List.mem_cons_self) hl.2 fun k hk y hy => ?_
      rcases (mem_keys_insertAdd_iff acc x.1 x.2 k).mp hk with h1 | h1
      · exact hge k h1 y (List.mem_cons_of_mem _ hy)
      · rw [h1]; exact hl.1 y hy
  exact key l [] List.Pairwise.nil hsorted (fun _ hk => absurd hk List.not_mem_nil)

theorem asc_countOf_mem {h : Hist α} (ha : Asc le h) {e : α × Nat} (he : e ∈ h) : countOf e.1 h = e.2 :=
  countOf_of_mem_nodup (asc_keys_nodup ha) he

theorem mem_asc_iff {A : Hist α} (hA : Asc le A) (e : α × Nat) :
    e ∈ A ↔ e.1 ∈ A.map Prod.fst ∧ e.2 = countOf e.1 A := by
  constructor
  · intro he
    exact ⟨List.mem_map.mpr ⟨e, he, rfl⟩, (asc_countOf_mem hA he).symm⟩
  · intro ⟨hk, hc⟩
    obtain ⟨e', he', hk'⟩ := List.mem_map.mp hk
    have : e' = e := Prod.ext hk' (by rw [hc, ← hk', asc_countOf_mem hA he'])
    exact this ▸ he'

theorem asc_ext (hle : TotalOrderB le) {A B : Hist α} (hA : Asc le A) (hB : Asc le B)
    (hmem : ∀ z, z ∈ A.map Prod.fst ↔ z ∈ B.map Prod.fst) (hc : ∀ z, countOf z A = countOf z B) :
    A = B :=
  ((List.perm_ext_iff_of_nodup (asc_nodup hA) (asc_nodup hB)).mpr fun e => by
      rw [mem_asc_iff hA, mem_asc_iff hB, hmem, hc]).eq_of_pairwise
    (fun _ _ _ _ hab hba => absurd (hle.antisymm _ _ hab.1 hba.1) hab.2) hA hB

theorem mem_keys_iff_countOf_ne_zero {A : Hist α} (hA : Asc le A) (hnz : ∀ e ∈ A, e.2 ≠ 0) (z : α) :
    z ∈ A.map Prod.fst ↔ countOf z A ≠ 0 := by
  constructor
  · intro hz
    obtain ⟨e, he, rfl⟩ := List.mem_map.mp hz
    rw [asc_countOf_mem hA he]; exact hnz e he
  · intro hc
    by_contra hz
    exact hc (countOf_eq_zero_of_not_key hz)

/-- without zero counts, the counts alone decide -/
theorem asc_ext_of_pos (hle : TotalOrderB le) {A B : Hist α} (hA : Asc le A) (hB : Asc le B)
    (hAnz : ∀ e ∈ A, e.2 ≠ 0) (hBnz : ∀ e ∈ B, e.2 ≠ 0) (hc : ∀ z, countOf z A = countOf z B) :
    A = B :=
  asc_ext hle hA hB (fun z => by
    rw [mem_keys_iff_countOf_ne_zero hA hAnz, mem_keys_iff_countOf_ne_zero hB hBnz, hc]) hc

/-- **C05, construction**: the same multiset of outcome/count data, in any order, gives the
identical histogram -/
theorem ofItems_perm (hle : TotalOrderB le) {l₁ l₂ : List (α × Nat)} (hp : l₁.Perm l₂) :
    ofItems le l₁ = ofItems le l₂ := by
  apply asc_ext hle (asc_ofItems hle l₁) (asc_ofItems hle l₂)
  · intro z
    rw [mem_keys_ofItems_iff, mem_keys_ofItems_iff]
    exact (hp.map Prod.fst).mem_iff
  · intro z
    rw [countOf_ofItems, countOf_ofItems]
    exact countOf_perm hp z

theorem ofItems_of_asc (hle : TotalOrderB le) {l : Hist α} (ha : Asc le l) : ofItems le l = l := by
  apply asc_ext hle (asc_ofItems hle l) ha
  · intro z; exact mem_keys_ofItems_iff l z
  · intro z; exact countOf_ofItems le l z

end

section
variable [DecidableEq γ]

theorem wsum_mapH (le : γ → γ → Bool) (op : α → β → γ) (a : Hist α) (b : Hist β) (G : γ → Nat) :
    wsum (mapH le op a b) G = wsum a (fun x => wsum b (fun y => G (op x y))) :=
  (wsum_ofItems le _ G).trans (wsum_flatMap_map a (fun _ => b) op G)

theorem wsum_umapH (le : γ → γ → Bool) (f : α → γ) (a : Hist α) (G : γ → Nat) :
    wsum (umapH le f a) G = wsum a (fun x => G (f x)) :=
  (wsum_ofItems le _ G).trans (wsum_map_fst a f G)

/-- **C01, convolution**: `count z (a op b) = Σ_{x,y} [x op y = z] · a[x] · b[y]` -/
theorem countOf_mapH (le : γ → γ → Bool) (op : α → β → γ) (a : Hist α) (b : Hist β) (z : γ) :
    countOf z (mapH le op a b)
      = wsum a (fun x => wsum b (fun y => if op x y = z then 1 else 0)) := wsum_mapH le op a b _

theorem total_mapH (le : γ → γ → Bool) (op : α → β → γ) (a : Hist α) (b : Hist β) :
    total (mapH le op a b) = total a * total b := by
  rw [total_eq_wsum, wsum_mapH, wsum_const, wsum_const, Nat.mul_one]

/-- **C01, relabelling** (unary operators, scalar operands on either side): counts of colliding
outcomes add -/
theorem countOf_umapH (le : γ → γ → Bool) (f : α → γ) (a : Hist α) (z : γ) :
    countOf z (umapH le f a) = wsum a (fun x => if f x = z then 1 else 0) := wsum_umapH le f a _

theorem total_umapH (le : γ → γ → Bool) (f : α → γ) (a : Hist α) :
    total (umapH le f a) = total a := by
  rw [total_eq_wsum, wsum_umapH, total_eq_wsum]

end

theorem wsum_scaleH (k : Nat) (h : Hist α) (f : α → Nat) : wsum (scaleH k h) f = k * wsum h f :=
  wsum_map_scale h id k f

theorem total_scaleH (k : Nat) (h : Hist α) : total (scaleH k h) = k * total h := by
  rw [total_eq_wsum, wsum_scaleH, total_eq_wsum]

section
variable [DecidableEq α]

theorem wsum_foldl_mapH (le : α → α → Bool) (add : α → α → α) (ds : List (Hist α))
    (A : Hist α) (G : α → Nat) :
    wsum (ds.foldl (fun acc g => mapH le add acc g) A) G
      = wsum A (fun a => wsum (poolTuples ds) (fun t => G (t.foldl add a))) := by
  induction ds generalizing A with
  | nil => simp [poolTuples]
  | cons d ds ih =>
    rw [List.foldl_cons, ih, wsum_mapH]
    simp only [wsum_poolTuples_cons, List.foldl_cons]

/-- **C03/C04**: `p.h()` is the sum of the dice (Python's left-to-right `sum`, starting from `0`) -/
theorem wsum_sumH (le : α → α → Bool) (zero : α) (add : α → α → α) (dice : List (Hist α))
    (G : α → Nat) :
    wsum (sumH le zero add dice) G
      = if dice = [] then 0 else wsum (poolTuples dice) (fun t => G (t.foldl add zero)) := by
  cases dice with
  | nil => rfl
  | cons d ds =>
    rw [sumH, wsum_foldl_mapH, wsum_umapH, if_neg (List.cons_ne_nil _ _), wsum_poolTuples_cons]
    rfl

/-- **C04**: `n @ h` is the `n`-fold sum of independent copies of `h` -/
theorem wsum_matmulH (le : α → α → Bool) (zero : α) (add : α → α → α) (n : Nat) (h : Hist α)
    (G : α → Nat) :
    wsum (matmulH le zero add n h) G
      = if n = 0 then 0 else wsum (tuples h n) (fun t => G (t.foldl add zero)) := by
  rw [matmulH, wsum_sumH, poolTuples_replicate]
  simp only [List.replicate_eq_nil_iff]

end

end Dyce
