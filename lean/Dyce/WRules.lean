import Dyce.RollerModel
/-! Reasoning in the weighted-list monad `W` without unfolding it: `mapW` reads a computation through a
function, `AllW` says that a predicate holds on every choice path; each comes with its rules for `pure`,
`>>=`, repetition (`replicateW`) and loops (`foldl` of binds).  `Supp` says that a value is one of the
results; it has no rules of its own, `AllW_supp` and `AllW.of_supp` tie it to `AllW`. -/
namespace Dyce

/-- read every result of `x` through `g`, path by path (weights untouched, nothing merged) -/
def mapW {β γ} (g : β → γ) (x : W β) : W γ := x.map fun e => (g e.1, e.2)

theorem W.bind_def {β γ} (x : W β) (f : β → W γ) :
    (x >>= f) = x.flatMap fun bw => (f bw.1).map fun cw => (cw.1, bw.2 * cw.2) := rfl

theorem W.pure_def {β} (b : β) : (pure b : W β) = [(b, 1)] := rfl

theorem mapW_pure {β γ} (g : β → γ) (b : β) : mapW g (pure b : W β) = pure (g b) := rfl

theorem mapW_bind {β γ δ} (g : γ → δ) (x : W β) (f : β → W γ) :
    mapW g (x >>= f) = x >>= fun a => mapW g (f a) := by
  simp only [W.bind_def, mapW, List.map_flatMap, List.map_map, Function.comp_def]

theorem bind_mapW {β γ δ} (g : β → γ) (x : W β) (f : γ → W δ) :
    (mapW g x >>= f) = x >>= fun a => f (g a) := by
  simp only [W.bind_def, mapW, List.flatMap_map]

theorem bind_pure_mapW {β γ} (g : β → γ) (x : W β) :
    (x >>= fun a => (pure (g a) : W γ)) = mapW g x := by
  show x.flatMap (fun bw => [(g bw.1, bw.2 * 1)]) = _
  simp only [Nat.mul_one]
  exact List.map_eq_flatMap.symm

/-- one step of reading a computation through functions: if `x` reads as `y` under `h` and every
continuation `f a` reads as `f' (h a)` under `g`, then `x >>= f` reads as `y >>= f'` -/
theorem mapW_bind_of {β β' γ γ'} {x : W β} {y : W β'} {h : β → β'} (hx : mapW h x = y)
    {f : β → W γ} {f' : β' → W γ'} {g : γ → γ'} (hf : ∀ a, mapW g (f a) = f' (h a)) :
    mapW g (x >>= f) = y >>= f' := by
  rw [← hx, mapW_bind, bind_mapW]
  exact bind_congr hf

theorem mapW_replicateW {β γ} (g : β → γ) (n : Nat) (x : W β) :
    mapW (fun l => l.map g) (replicateW n x) = replicateW n (mapW g x) := by
  induction n with
  | zero => rfl
  | succ n ih =>
    simp only [replicateW]
    exact mapW_bind_of rfl fun a => mapW_bind_of ih fun l => rfl

/-- two loops in `W` whose bodies correspond under `g` (state) and `key` (item) correspond -/
theorem mapW_foldl {α α' σ σ'} (g : σ → σ') (key : α → α') {body : σ → α → W σ} {body' : σ' → α' → W σ'}
    {l : List α} (h : ∀ o ∈ l, ∀ st, mapW g (body st o) = body' (g st) (key o)) {acc : W σ} :
    mapW g (l.foldl (fun acc o => acc >>= fun st => body st o) acc)
      = (l.map key).foldl (fun acc v => acc >>= fun st => body' st v) (mapW g acc) := by
  induction l generalizing acc with
  | nil => rfl
  | cons o l ih =>
    rw [List.foldl_cons, List.map_cons, List.foldl_cons,
      ih (fun o' ho' => h o' (List.mem_cons_of_mem _ ho')),
      mapW_bind_of (f' := fun st => body' st (key o)) rfl (h o List.mem_cons_self)]

/-- `Q` holds of every result of `x`, on every choice path (weights, even zero ones, play no part) -/
def AllW {β} (Q : β → Prop) (x : W β) : Prop := ∀ e ∈ x, Q e.1

theorem AllW_pure {β} {Q : β → Prop} {b : β} (h : Q b) : AllW Q (pure b : W β) := by
  intro e he
  obtain rfl : e = (b, 1) := List.mem_singleton.mp he
  exact h

theorem AllW_bind {β γ} {Q : β → Prop} {R : γ → Prop} {x : W β} {f : β → W γ}
    (hx : AllW Q x) (hf : ∀ a, Q a → AllW R (f a)) : AllW R (x >>= f) := by
  intro e he
  rw [W.bind_def, List.mem_flatMap] at he
  obtain ⟨a, ha, he⟩ := he
  rw [List.mem_map] at he
  obtain ⟨c, hc, rfl⟩ := he
  exact hf a.1 (hx a ha) c hc

theorem AllW_true {β} (x : W β) : AllW (fun _ => True) x := fun _ _ => trivial

theorem AllW_bind_any {β γ} {R : γ → Prop} {x : W β} {f : β → W γ} (hf : ∀ a, AllW R (f a)) :
    AllW R (x >>= f) := AllW_bind (AllW_true x) fun a _ => hf a

theorem AllW_replicateW {β} {Q : β → Prop} {x : W β} (n : Nat) (hx : AllW Q x) :
    AllW (fun l => ∀ b ∈ l, Q b) (replicateW n x) := by
  induction n with
  | zero => exact AllW_pure (by simp)
  | succ n ih =>
    simp only [replicateW]
    refine AllW_bind hx (fun a ha => ?_)
    refine AllW_bind ih (fun l hl => ?_)
    exact AllW_pure (List.forall_mem_cons.mpr ⟨ha, hl⟩)

theorem replicateW_length {β} (n : Nat) (x : W β) : AllW (fun l => l.length = n) (replicateW n x) := by
  induction n with
  | zero => exact AllW_pure rfl
  | succ n ih =>
    simp only [replicateW]
    refine AllW_bind_any (fun a => ?_)
    refine AllW_bind ih (fun l hl => ?_)
    exact AllW_pure (by simp [hl])

theorem AllW_mono {β} {Q R : β → Prop} {x : W β} (h : AllW Q x) (hqr : ∀ b, Q b → R b) : AllW R x :=
  fun e he => hqr _ (h e he)

theorem AllW_and {β} {Q R : β → Prop} {x : W β} (hq : AllW Q x) (hr : AllW R x) :
    AllW (fun b => Q b ∧ R b) x := fun e he => ⟨hq e he, hr e he⟩

/-- Hoare rule for a loop in `W`: an invariant (which may mention the items still to come) that holds
at the start and is kept by the body holds at the end -/
theorem AllW_foldl {α σ} (Inv : List α → σ → Prop) {P : σ → Prop} {body : σ → α → W σ}
    (hbody : ∀ o rem st, Inv (o :: rem) st → AllW (Inv rem) (body st o))
    (hend : ∀ st, Inv [] st → P st) {l : List α} {acc : W σ} (h : AllW (Inv l) acc) :
    AllW P (l.foldl (fun acc o => acc >>= fun st => body st o) acc) := by
  induction l generalizing acc with
  | nil => exact AllW_mono h hend
  | cons o l ih => exact ih (AllW_bind h (hbody o l))

/-- `b` is one of the results on some random choice path -/
def Supp {β} (x : W β) (b : β) : Prop := ∃ w, (b, w) ∈ x

theorem AllW_supp {β} (x : W β) : AllW (Supp x) x := fun e he => ⟨e.2, he⟩

/-- what holds on every path holds of each result: this is how a statement about `rollW mkRollDeep s`
is applied to a recorded source roll -/
theorem AllW.of_supp {β} {Q : β → Prop} {x : W β} (h : AllW Q x) {b : β} (hb : Supp x b) : Q b :=
  hb.elim fun _ hw => h _ hw

end Dyce
