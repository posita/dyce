import Dyce.RollerProofs

/-! C12, ownership clause: on every choice path (`AllW`), every outcome reachable through `sources` is
associated with a roll.  True of the repaired `Roll.__init__`, false of the pinned one
(`C12_pinned_counterexample`). -/
namespace Dyce

mutual
/-- every *owned* outcome reachable from `ro` (itself included) is fully owned -/
def RO.ownedOK : RO → Bool
  | .mk v srcs o => (if o then RO.allOwnedList srcs else true) && RO.ownedOKList srcs
def RO.ownedOKList : List RO → Bool
  | [] => true
  | r :: rs => r.ownedOK && RO.ownedOKList rs
end

mutual
/-- induction over outcomes, with the hypothesis for the sources stated by membership -/
theorem RO.induct {P : RO → Prop} (mk : ∀ v srcs o, (∀ s ∈ srcs, P s) → P (.mk v srcs o)) :
    ∀ ro : RO, P ro
  | .mk v srcs o => mk v srcs o (RO.induct_list mk srcs)
theorem RO.induct_list {P : RO → Prop} (mk : ∀ v srcs o, (∀ s ∈ srcs, P s) → P (.mk v srcs o)) :
    ∀ l : List RO, ∀ s ∈ l, P s
  | [] => fun _ h => nomatch h
  | t :: ts => fun s hs => (List.mem_cons.mp hs).elim (fun h => h ▸ RO.induct mk t)
      (fun h => RO.induct_list mk ts s h)
end

theorem allOwnedList_eq_all (l : List RO) : RO.allOwnedList l = l.all RO.allOwned := by
  induction l with
  | nil => rfl
  | cons x l ih => rw [RO.allOwnedList, ih, List.all_cons]

theorem ownedOKList_eq_all (l : List RO) : RO.ownedOKList l = l.all RO.ownedOK := by
  induction l with
  | nil => rfl
  | cons x l ih => rw [RO.ownedOKList, ih, List.all_cons]

theorem wellOwnedList_eq_all (l : List RollRec) : RollRec.wellOwnedList l = l.all RollRec.wellOwned := by
  induction l with
  | nil => rfl
  | cons x l ih => rw [RollRec.wellOwnedList, ih, List.all_cons]

theorem allOwnedList_iff {l : List RO} : RO.allOwnedList l = true ↔ ∀ ro ∈ l, ro.allOwned = true := by
  rw [allOwnedList_eq_all, List.all_eq_true]

theorem ownedOKList_iff {l : List RO} : RO.ownedOKList l = true ↔ ∀ ro ∈ l, ro.ownedOK = true := by
  rw [ownedOKList_eq_all, List.all_eq_true]

theorem RO.allOwned_mk {v : Option Int} {srcs : List RO} {o : Bool} :
    (RO.mk v srcs o).allOwned = true ↔ o = true ∧ ∀ s ∈ srcs, s.allOwned = true := by
  rw [RO.allOwned, Bool.and_eq_true, allOwnedList_iff]

theorem RO.ownedOK_mk {v : Option Int} {srcs : List RO} {o : Bool} :
    (RO.mk v srcs o).ownedOK = true ↔
      (o = true → ∀ s ∈ srcs, s.allOwned = true) ∧ ∀ s ∈ srcs, s.ownedOK = true := by
  rw [RO.ownedOK, Bool.and_eq_true, ownedOKList_iff, ← allOwnedList_iff]
  cases o with
  | false => simp only [Bool.false_eq_true, if_false, false_imp_iff]
  | true => simp only [if_true, true_imp_iff]

theorem allOwned_ownedOK : ∀ ro : RO, ro.allOwned = true → ro.ownedOK = true := by
  intro ro
  induction ro using RO.induct with
  | mk v srcs o ih =>
    intro h
    obtain ⟨_, hs⟩ := RO.allOwned_mk.mp h
    exact RO.ownedOK_mk.mpr ⟨fun _ => hs, fun s hmem => ih s hmem (hs s hmem)⟩

theorem allOwnedList_ownedOKList : ∀ l : List RO, RO.allOwnedList l = true → RO.ownedOKList l = true :=
  fun _ h => ownedOKList_iff.mpr fun ro hro => allOwned_ownedOK ro (allOwnedList_iff.mp h ro hro)

theorem ownDeep_allOwned : ∀ ro : RO, ro.ownedOK = true → ro.ownDeep.allOwned = true := by
  intro ro
  induction ro using RO.induct with
  | mk v srcs o ih =>
    intro h
    obtain ⟨hall, hok⟩ := RO.ownedOK_mk.mp h
    unfold RO.ownDeep
    cases o with
    | true => exact RO.allOwned_mk.mpr ⟨rfl, hall rfl⟩
    | false =>
      refine RO.allOwned_mk.mpr ⟨rfl, ?_⟩
      rw [ownDeepList_eq_map]
      exact List.forall_mem_map.mpr fun s hs => ih s hs (hok s hs)

/-- a fresh (not yet associated) outcome is `ownedOK` when its sources are -/
theorem ownedOK_fresh {v : Option Int} {srcs : List RO} (h : ∀ s ∈ srcs, s.ownedOK = true) :
    (RO.mk v srcs false).ownedOK = true :=
  RO.ownedOK_mk.mpr ⟨fun ho => Bool.noConfusion ho, h⟩

theorem RollRec.wellOwned_iff {r : RollRec} :
    r.wellOwned = true ↔
      (∀ ro ∈ r.outcomes, ro.allOwned = true) ∧ ∀ sr ∈ r.sourceRolls, sr.wellOwned = true := by
  cases r with
  | mk outs srs =>
    rw [RollRec.wellOwned, Bool.and_eq_true, allOwnedList_iff, wellOwnedList_eq_all, List.all_eq_true]
    rfl

theorem ownedOKList_append (a b : List RO) :
    RO.ownedOKList (a ++ b) = (RO.ownedOKList a && RO.ownedOKList b) := by
  simp only [ownedOKList_eq_all, List.all_append]

theorem allOwnedList_of_forall (l : List RO) (h : ∀ ro ∈ l, ro.allOwned = true) :
    RO.allOwnedList l = true := allOwnedList_iff.mpr h

theorem outcomes_allOwned {r : RollRec} (h : r.wellOwned = true) :
    ∀ ro ∈ r.outcomes, ro.allOwned = true := (RollRec.wellOwned_iff.mp h).1

theorem sourceRolls_wellOwned {r : RollRec} (h : r.wellOwned = true) :
    ∀ sr ∈ r.sourceRolls, sr.wellOwned = true := (RollRec.wellOwned_iff.mp h).2

theorem mkRollDeep_wellOwned {outs : List RO} {srs : List RollRec}
    (houts : ∀ ro ∈ outs, ro.ownedOK = true) (hsrs : ∀ sr ∈ srs, sr.wellOwned = true) :
    (mkRollDeep outs srs).wellOwned = true := by
  refine RollRec.wellOwned_iff.mpr ⟨?_, hsrs⟩
  rw [show (mkRollDeep outs srs).outcomes = outs.map RO.ownDeep from ownDeepList_eq_map outs]
  exact List.forall_mem_map.mpr fun ro hro => ownDeep_allOwned ro (houts ro hro)

theorem live_mem {rs : List RollRec} {sr : RollRec} (hsr : sr ∈ rs) {o : RO} (ho : o ∈ sr.outcomes)
    (hv : o.value.isSome) : o ∈ liveOutcomes rs :=
  List.mem_filter.mpr ⟨List.mem_flatMap.mpr ⟨sr, hsr, ho⟩, hv⟩

theorem owned_of_allOwned {ro : RO} (h : ro.allOwned = true) : ro.owned = true := by
  cases ro with
  | mk v srcs o =>
    exact (RO.allOwned_mk.mp h).1

/-- live outcomes of well-owned rolls are fully owned, hence `ownedOK` sources for new outcomes -/
theorem live_ownedOK (rs : List RollRec) (h : ∀ r ∈ rs, r.wellOwned = true) :
    ∀ ro ∈ liveOutcomes rs, ro.ownedOK = true := by
  intro ro hro
  obtain ⟨r, hr, hror⟩ := List.mem_flatMap.mp (List.mem_filter.mp hro).1
  exact allOwned_ownedOK ro (outcomes_allOwned (h r hr) ro hror)

theorem euthanize_ownedOK (ro : RO) (h : ro.ownedOK = true) : (euthanize ro).ownedOK = true :=
  ownedOK_fresh (List.forall_mem_singleton.mpr h)

theorem sumOperand_ownedOK (sr : RollRec) (h : sr.wellOwned = true) :
    (sumOperand sr).ownedOK = true := by
  have hall : ∀ ro ∈ sr.outcomes, ro.ownedOK = true :=
    fun ro hro => allOwned_ownedOK ro (outcomes_allOwned h ro hro)
  unfold sumOperand
  split
  · rename_i ro heq
    split
    · exact hall ro (by rw [heq]; exact List.mem_singleton.mpr rfl)
    · exact ownedOK_fresh hall
  · exact ownedOK_fresh hall

theorem adoptAppend_allOwned (o ro : RO) (ho : o.allOwned = true) (hro : ro.allOwned = true) :
    (RO.adoptAppend o ro).allOwned = true := by
  cases ro with
  | mk v srcs ow =>
    rw [RO.allOwned_mk] at hro
    rw [RO.adoptAppend, RO.allOwned_mk]
    refine ⟨hro.1, fun s hs => ?_⟩
    rcases List.mem_append.mp hs with hs | hs
    · exact hro.2 s hs
    · rw [List.mem_singleton.mp hs]; exact ho

/-- the invariant of the substitution loop: yielded outcomes are `ownedOK`, appended rolls
are well-owned -/
def ExpandOK (res : List RO × List RollRec) : Prop :=
  (∀ ro ∈ res.1, ro.ownedOK = true) ∧ ∀ sr ∈ res.2, sr.wellOwned = true

theorem expandW_wellOwned (p : Int → Bool) {rollE : W RollRec}
    (hE : AllW (fun rec => rec.wellOwned = true) rollE) (replace : Bool) :
    ∀ (k : Nat) (roll : RollRec), roll.wellOwned = true →
      AllW ExpandOK (expandW mkRollDeep p rollE replace k roll) := by
  intro k
  induction k with
  | zero =>
    intro roll hroll
    rw [expandW]
    refine AllW_pure ⟨?_, List.forall_mem_singleton.mpr hroll⟩
    intro ro hro
    exact allOwned_ownedOK ro (outcomes_allOwned hroll ro (List.mem_filter.mp hro).1)
  | succ k ih =>
    intro roll hroll
    rw [expandW]
    refine AllW_foldl (fun rem st => (∀ o ∈ rem, o.allOwned = true) ∧ ExpandOK st) ?_ (fun _ h => h.2)
      (AllW_pure ⟨fun o ho => outcomes_allOwned hroll o (List.mem_filter.mp ho).1,
        List.forall_mem_nil _, List.forall_mem_singleton.mpr hroll⟩)
    intro o rem st ⟨hl, hst⟩
    have ho : o.allOwned = true := hl o List.mem_cons_self
    have hoOK : o.ownedOK = true := allOwned_ownedOK o ho
    have hrem : ∀ o' ∈ rem, o'.allOwned = true := fun o' ho' => hl o' (List.mem_cons_of_mem _ ho')
    by_cases hp : p (o.value.getD 0) = true
    · rw [if_pos hp]
      refine AllW_bind hE (fun er her => ?_)
      have hadopted : (mkRollDeep (er.outcomes.map (RO.adoptAppend o)) er.sourceRolls).wellOwned = true :=
        mkRollDeep_wellOwned (List.forall_mem_map.mpr fun ro hro =>
            allOwned_ownedOK _ (adoptAppend_allOwned o ro ho (outcomes_allOwned her ro hro)))
          (sourceRolls_wellOwned her)
      refine AllW_bind (ih _ hadopted) (fun sub hsub => AllW_pure ⟨hrem, ?_, ?_⟩)
      · intro ro hro
        simp only [List.mem_append, List.mem_singleton] at hro
        rcases hro with (hro | rfl) | hro
        · exact hst.1 ro hro
        · cases replace with
          | true => exact euthanize_ownedOK o hoOK
          | false => exact hoOK
        · exact hsub.1 ro hro
      · exact List.forall_mem_append.mpr ⟨hst.2, hsub.2⟩
    · rw [if_neg hp]
      refine AllW_pure ⟨hrem, ?_, hst.2⟩
      intro ro hro
      simp only [List.mem_append, List.mem_singleton] at hro
      rcases hro with hro | rfl
      · exact hst.1 ro hro
      · exact hoOK

theorem chainRO_ownedOK (ops : List (Int → Int)) {a : RO} (ha : a.ownedOK = true) :
    (chainRO ops a).ownedOK = true := by
  induction ops generalizing a with
  | nil => exact ha
  | cons f fs ih =>
    rw [chainRO]
    exact ih (ownedOK_fresh (List.forall_mem_singleton.mpr ha))

/-- a leaf roll: one fresh outcome without sources -/
theorem leaf_wellOwned (v : Int) : (mkRollDeep [.mk (some v) [] false] []).wellOwned = true :=
  mkRollDeep_wellOwned (List.forall_mem_singleton.mpr (ownedOK_fresh (List.forall_mem_nil _)))
    (List.forall_mem_nil _)

mutual
theorem rollAllW_wellOwned : ∀ (rs : List RTree),
    AllW (fun l => ∀ r ∈ l, r.wellOwned = true) (rollAllW mkRollDeep rs)
  | [] => AllW_pure (List.forall_mem_nil _)
  | s :: ss => by
    refine AllW_bind (rollW_wellOwned s) (fun r hr => ?_)
    refine AllW_bind (rollAllW_wellOwned ss) (fun l hl => ?_)
    exact AllW_pure (List.forall_mem_cons.mpr ⟨hr, hl⟩)

theorem rollW_wellOwned : ∀ (r : RTree),
    AllW (fun rec => rec.wellOwned = true) (rollW mkRollDeep r)
  -- in each case the goal reduces to the clause of `rollW` for that node, so the `AllW` rules apply as they are
  | .value (.scalar v) => AllW_pure (leaf_wellOwned v)
  | .value (.hist h) => AllW_bind_any fun v => AllW_pure (leaf_wellOwned v)
  | .value (.pool hs) => by
    refine AllW_bind_any fun vs => ?_
    exact AllW_pure (mkRollDeep_wellOwned
      (List.forall_mem_map.mpr fun v _ => ownedOK_fresh (List.forall_mem_nil _)) (List.forall_mem_nil _))
  | .pool srcs => by
    refine AllW_bind (rollAllW_wellOwned srcs) (fun rs hrs => ?_)
    exact AllW_pure (mkRollDeep_wellOwned (live_ownedOK rs hrs) hrs)
  | .rep n src => by
    refine AllW_bind (AllW_replicateW n (rollW_wellOwned src)) (fun rs hrs => ?_)
    exact AllW_pure (mkRollDeep_wellOwned (live_ownedOK rs hrs) hrs)
  | .bin op l r => by
    refine AllW_bind (rollW_wellOwned l) (fun rl hl => ?_)
    refine AllW_bind (rollW_wellOwned r) (fun rr hr => ?_)
    exact AllW_pure (mkRollDeep_wellOwned
      (List.forall_mem_singleton.mpr (ownedOK_fresh (List.forall_mem_cons.mpr
        ⟨sumOperand_ownedOK rl hl, List.forall_mem_singleton.mpr (sumOperand_ownedOK rr hr)⟩)))
      (List.forall_mem_cons.mpr ⟨hl, List.forall_mem_singleton.mpr hr⟩))
  | .un op s => by
    refine AllW_bind (rollW_wellOwned s) (fun rs hs => ?_)
    exact AllW_pure (mkRollDeep_wellOwned
      (List.forall_mem_singleton.mpr
        (ownedOK_fresh (List.forall_mem_singleton.mpr (sumOperand_ownedOK rs hs))))
      (List.forall_mem_singleton.mpr hs))
  | .unChain ops s => by
    refine AllW_bind (rollW_wellOwned s) (fun rs hs => ?_)
    exact AllW_pure (mkRollDeep_wellOwned
      (List.forall_mem_singleton.mpr (chainRO_ownedOK ops (sumOperand_ownedOK rs hs)))
      (List.forall_mem_singleton.mpr hs))
  | .filt p srcs => by
    refine AllW_bind (rollAllW_wellOwned srcs) (fun rs hrs => ?_)
    refine AllW_pure (mkRollDeep_wellOwned (List.forall_mem_map.mpr fun ro hro => ?_) hrs)
    have := live_ownedOK rs hrs ro hro
    split
    · exact this
    · exact euthanize_ownedOK ro this
  | .sel which srcs => by
    refine AllW_bind (rollAllW_wellOwned srcs) (fun rs hrs => ?_)
    have hsorted : ∀ ro ∈ sortRO (liveOutcomes rs), ro.ownedOK = true :=
      fun ro hro => live_ownedOK rs hrs ro (mem_sortRO.mp hro)
    simp only
    split
    · exact AllW_pure (mkRollDeep_wellOwned (List.forall_mem_nil _) hrs)
    · exact AllW_pure (mkRollDeep_wellOwned (by
        intro ro hro
        rw [List.mem_append] at hro
        rcases hro with hro | hro
        · obtain ⟨j, _, hj⟩ := List.mem_filterMap.mp hro
          exact hsorted ro (List.mem_of_getElem? hj)
        · obtain ⟨j, _, hj⟩ := List.mem_filterMap.mp hro
          obtain ⟨r0, hs, rfl⟩ := Option.map_eq_some_iff.mp hj
          exact euthanize_ownedOK r0 (hsorted r0 (List.mem_of_getElem? hs))) hrs)
  | .subst p e replace maxDepth src => by
    refine AllW_bind (rollW_wellOwned src) (fun sr hsr => ?_)
    refine AllW_bind (expandW_wellOwned p (rollW_wellOwned e) replace maxDepth sr hsr)
      (fun res hres => ?_)
    exact AllW_pure (mkRollDeep_wellOwned hres.1 hres.2)
  | .substMap p f maxDepth src => by
    refine AllW_bind (rollW_wellOwned src) (fun sr hsr => ?_)
    have hlive : ∀ o ∈ (sr.outcomes.filter fun ro => ro.value.isSome), o.ownedOK = true :=
      fun o ho => allOwned_ownedOK o (outcomes_allOwned hsr o (List.mem_filter.mp ho).1)
    refine AllW_pure (mkRollDeep_wellOwned ?_ (List.forall_mem_singleton.mpr hsr))
    intro ro hro
    split at hro
    · exact hlive ro hro
    · obtain ⟨o, ho, rfl⟩ := List.mem_map.mp hro
      split
      · exact ownedOK_fresh (List.forall_mem_singleton.mpr (hlive o ho))
      · exact hlive o ho
end

end Dyce
