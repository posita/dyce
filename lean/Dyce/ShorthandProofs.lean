import Dyce.HistProofs
import Dyce.PoolCtorModel
/-! C05: the `H(n)` shorthand is the histogram of the explicit faces `1..n` (or `n..-1`), one each. -/
namespace Dyce
open List

theorem asc_ofInt (n : Int) : Asc leZ (ofInt n) := by
  unfold ofInt Asc
  split
  · rw [List.pairwise_map]
    exact List.pairwise_lt_range.imp fun hab =>
      (leZ_lt_iff _ _).mpr (Int.add_lt_add_right (Int.ofNat_lt.mpr hab) 1)
  · rw [List.pairwise_map]
    exact List.pairwise_lt_range.imp fun hab =>
      (leZ_lt_iff _ _).mpr (Int.add_lt_add_left (Int.ofNat_lt.mpr hab) n)

theorem total_map_one {ι β : Type} (l : List ι) (f : ι → β) :
    total (l.map fun i => (f i, 1)) = l.length := by
  rw [total, List.map_map, Function.comp_def, List.map_const', List.sum_replicate_nat, Nat.mul_one]

theorem total_ofInt (n : Int) : total (ofInt n) = n.natAbs := by
  -- one face each, and `n.toNat + (-n).toNat = |n|` with one of the two summands zero
  rw [← Int.toNat_add_toNat_neg_eq_natAbs]
  unfold ofInt
  split
  · next hn =>
    rw [total_map_one, List.length_range,
      Int.toNat_of_nonpos (Int.neg_nonpos_of_nonneg (Int.le_of_lt hn)), Nat.add_zero]
  · next hn =>
    rw [total_map_one, List.length_range, Int.toNat_of_nonpos (Int.not_lt.mp hn), Nat.zero_add]

theorem mem_ofInt (n z : Int) (c : Nat) :
    (z, c) ∈ ofInt n ↔ c = 1 ∧ ((1 ≤ z ∧ z ≤ n) ∨ (n ≤ z ∧ z ≤ -1)) := by
  unfold ofInt
  split
  · simp only [List.mem_map, List.mem_range, Prod.mk.injEq, Int.lt_toNat]
    constructor
    · rintro ⟨i, hi, rfl, rfl⟩
      exact ⟨rfl, Or.inl ⟨Int.le_add_of_nonneg_left (Int.natCast_nonneg i), hi⟩⟩
    · rintro ⟨rfl, h⟩
      obtain ⟨i, rfl⟩ := Int.le.dest (show 1 ≤ z by omega)
      exact ⟨i, by omega, Int.add_comm _ _, rfl⟩
  · simp only [List.mem_map, List.mem_range, Prod.mk.injEq, Int.lt_toNat]
    constructor
    · rintro ⟨i, hi, rfl, rfl⟩
      exact ⟨rfl, Or.inr ⟨Int.le_add_of_nonneg_right (Int.natCast_nonneg i), by omega⟩⟩
    · rintro ⟨rfl, h⟩
      obtain ⟨i, rfl⟩ := Int.le.dest (show n ≤ z by omega)
      exact ⟨i, by omega, rfl, rfl⟩

/-- building from the explicit faces in any order (pairs, bare outcomes — any data that is a
permutation of `(i, 1)` for the faces) gives the very histogram the shorthand gives -/
theorem ofItems_perm_ofInt (n : Int) {l : List (Int × Nat)} (hp : l ~ ofInt n) :
    ofItems leZ l = ofInt n := by
  rw [ofItems_perm leZ_total hp, ofItems_of_asc leZ_total (asc_ofInt n)]

end Dyce
