import Dyce.ExplodeModel
import Dyce.EvalRefine

/-! `explode` and `substitute` through the evaluator (C08).  Under a whole-number limit `n` the depth
rises by one per level and the cut fires at depth `n`, so the evaluator run is the bounded recursion
`substSpec` (`specEval_subst`, at any entry depth); `explode` is `substitute` on the family `[h]`. -/
namespace Dyce

theorem branches_single (h : Hist Int) :
    branches [srcOfHist h] = h.map fun fc => ([fc.1], fc.2) := by
  induction h with
  | nil => rfl
  | cons e h ih =>
    rw [List.map_cons, ← ih]
    simp [branches, srcOfHist]

/-- **core**: an `_expand` call on family member `j`, entered at depth `d` with the whole-number limit
`n = d + k` in force (its own at the top level, inherited when nested) and fuel to spare, computes
the bounded recursion with `k` levels left; only the top level (`d = 0`) reduces to lowest terms -/
theorem specEval_subst (fam : List (Hist Int)) (tbl : Nat → Int → SubAct) (add : Bool) (start n : Nat) :
    ∀ (k fuel j : Nat) (lim : Option Limit) (cur : Ctx),
      (lim.orElse fun _ => cur.limit).getD (.int 1) = .int n → cur.depth + k = n → k < fuel →
      specEval (substFn fam tbl add start) (aggregateWeighted leInt) (lowestTerms leInt) fuel j
        [srcOfHist (fam.getD j [])] lim cur
        = .ok ((if cur.depth = 0 then lowestTerms leInt else id) (substSpec fam tbl add start k j)) := by
  intro k
  induction k with
  | zero =>
    intro fuel j lim cur hlim hdk hf
    obtain ⟨fuel, rfl⟩ := Nat.exists_eq_add_one.mpr hf
    exact specEval_of_cut hlim (cutNow_int.mpr (Nat.le_of_eq hdk.symm))
  | succ k ih =>
    intro fuel j lim cur hlim hdk hf
    obtain ⟨fuel, rfl⟩ := Nat.exists_eq_add_one.mpr (Nat.zero_lt_of_lt hf)
    have hd : cur.depth < n := Nat.lt_of_lt_of_eq (Nat.lt_add_of_pos_right (Nat.succ_pos k)) hdk
    rw [specEval_of_ok hlim (cutNow_int_false.mpr hd)
      (fun bw => match tbl j (bw.1.headD 0) with
        | .out o => Ret.out o
        | .hist i => Ret.hist (coalesceH add (bw.1.headD 0) (substSpec fam tbl add start k i)))]
    · rw [branches_single, List.map_map]
      rfl
    · intro bw hbw
      rw [branches_single] at hbw
      obtain ⟨fc, -, rfl⟩ := List.mem_map.mp hbw
      show specProg _ _ (match tbl j fc.1 with
        | .out o => Prog.ret (Ret.out o)
        | .hist i => Prog.call i [srcOfHist (fam.getD i [])] none fun r =>
            Prog.ret (Ret.hist (coalesceH add fc.1 r))) = _
      simp only [List.headD_cons]
      cases tbl j fc.1 with
      | out o => rfl
      | hist i =>
        simp only [specProg]
        rw [ih fuel i none _ rfl ((Nat.succ_add_eq_add_succ cur.depth k).trans hdk)
          (Nat.lt_of_succ_lt_succ hf)]
        rfl

theorem substEval_eq_spec (fam : List (Hist Int)) (tbl : Nat → Int → SubAct) (add : Bool) (start n fuel : Nat)
    (hf : n < fuel) :
    substEval fuel fam tbl add start (some (.int n)) none
      = (.ok (lowestTerms leInt (substSpec fam tbl add start n start)), none) := by
  unfold substEval
  rw [evalFn_refines, specEval_subst fam tbl add start n n fuel start _ _ rfl (Nat.zero_add n) hf]
  rfl

/-- `explode` is `substitute` on the one-member family `[h]`: a face satisfying the predicate expands
into `h` again and is added (`coalesce = operator.__add__`), any other face is kept -/
def explodeTbl (pred : Int → Bool) (_ : Nat) (f : Int) : SubAct := if pred f then .hist 0 else .out f

theorem explodeFn_eq_substFn (h : Hist Int) (pred : Int → Bool) (j : Nat) :
    explodeFn h pred = substFn [h] (explodeTbl pred) true 0 j := by
  unfold explodeFn substFn
  congr 1
  funext ids
  rcases ids with _ | ⟨f, _ | _⟩
  · rfl
  · simp only [explodeTbl]
    cases pred f <;> rfl
  · rfl

theorem explodeSpec_eq_substSpec (h : Hist Int) (pred : Int → Bool) (k : Nat) :
    explodeSpec h pred k = substSpec [h] (explodeTbl pred) true 0 k 0 := by
  induction k with
  | zero => rfl
  | succ k ih =>
    rw [explodeSpec, substSpec, ih]
    congr 2
    funext fc
    unfold explodeTbl
    cases pred fc.1 <;> rfl

theorem explodeEval_eq_spec (h : Hist Int) (pred : Int → Bool) (n fuel : Nat) (hf : n < fuel) :
    explodeEval fuel h pred (some (.int n)) none
      = (.ok (lowestTerms leInt (explodeSpec h pred n)), none) := by
  rw [explodeSpec_eq_substSpec, ← substEval_eq_spec [h] (explodeTbl pred) true 0 n fuel hf]
  unfold explodeEval substEval
  rw [funext (explodeFn_eq_substFn h pred)]
  rfl

end Dyce
