import Dyce.RollerSpec
import Dyce.WRules
import Mathlib.Data.List.Basic
/-! C11: forgetting the roll records (`mapW RollRec.values`), `rollW` is the record-free denotation `den`.
Each operation that builds outcomes is characterised by what it does to `filterMap RO.value`; the fusion
theorem holds for every `Roll.__init__` that keeps values. -/
namespace Dyce

theorem values_single (x : Int) (srcs : List RO) (o : Bool) :
    [RO.mk (some x) srcs o].filterMap RO.value = [x] := rfl

theorem chainRO_value (ops : List (Int → Int)) {a : RO} {v : Int} (ha : a.value = some v) :
    (chainRO ops a).value = some (ops.foldl (fun v f => f v) v) := by
  induction ops generalizing a v with
  | nil => exact ha
  | cons f fs ih =>
    rw [chainRO, List.foldl_cons]
    exact ih (by rw [ha]; rfl)

theorem RO.value_own (ro : RO) : ro.own.value = ro.value := by cases ro; rfl

/-- what the fusion theorem needs from `Roll.__init__`: it does not touch values -/
def KeepsValues (mk : List RO → List RollRec → RollRec) : Prop :=
  ∀ outs srs, (mk outs srs).values = outs.filterMap RO.value

theorem keepsValues_top : KeepsValues mkRollTop := by
  intro outs srs
  simp only [mkRollTop, RollRec.values, RollRec.outcomes, List.filterMap_map, Function.comp_def,
    RO.value_own]

theorem RO.value_ownDeep (ro : RO) : ro.ownDeep.value = ro.value := by
  cases ro with
  | mk v s o => unfold RO.ownDeep; split <;> rfl

theorem ownDeepList_eq_map (l : List RO) : RO.ownDeepList l = l.map RO.ownDeep := by
  induction l with
  | nil => rfl
  | cons x l ih => rw [RO.ownDeepList, ih, List.map_cons]

theorem keepsValues_deep : KeepsValues mkRollDeep := by
  intro outs srs
  simp only [mkRollDeep, ownDeepList_eq_map, RollRec.values, RollRec.outcomes, List.filterMap_map,
    Function.comp_def, RO.value_ownDeep]

theorem filterMap_filter_isSome (l : List RO) :
    (l.filter fun ro => ro.value.isSome).filterMap RO.value = l.filterMap RO.value := by
  rw [List.filterMap_filter]
  apply List.filterMap_congr
  intro ro _
  cases ro.value <;> rfl

theorem values_live (rs : List RollRec) :
    (liveOutcomes rs).filterMap RO.value = rs.flatMap RollRec.values := by
  rw [liveOutcomes, filterMap_filter_isSome, List.filterMap_flatMap]
  rfl

theorem sumOperand_value (sr : RollRec) : (sumOperand sr).value = some sr.values.sum := by
  unfold sumOperand
  split
  · rename_i ro heq
    split
    · rename_i hsome
      obtain ⟨v, hv⟩ := Option.isSome_iff_exists.mp hsome
      rw [RollRec.values, heq, List.filterMap_cons_some hv, hv]
      simp only [List.filterMap_nil, List.sum_cons, List.sum_nil, Int.add_zero]
    · rfl
  · rfl

theorem euthanize_value (ro : RO) : (euthanize ro).value = none := rfl

theorem RO.value_mk (v : Option Int) (srcs : List RO) (o : Bool) : (RO.mk v srcs o).value = v := rfl

theorem live_isSome (rs : List RollRec) : ∀ ro ∈ liveOutcomes rs, ro.value.isSome :=
  fun _ => List.of_mem_filter

/-- on live outcomes `filterMap RO.value` is a plain `map` -/
theorem filterMap_value_live {l : List RO} (hl : ∀ ro ∈ l, ro.value.isSome) :
    l.filterMap RO.value = l.map fun ro => ro.value.getD 0 := by
  induction l with
  | nil => rfl
  | cons x l ih =>
    obtain ⟨v, hv⟩ := Option.isSome_iff_exists.mp (hl x (by simp))
    rw [List.filterMap_cons, hv, List.map_cons, hv, ih fun r hr => hl r (by simp [hr])]; rfl

/-- `insertRO` compares `value.getD 0`, so it is `insertI` on those keys — live or not -/
theorem insertRO_keys (x : RO) (l : List RO) :
    (insertRO x l).map (fun ro => ro.value.getD 0)
      = insertI (x.value.getD 0) (l.map fun ro => ro.value.getD 0) := by
  induction l with
  | nil => rfl
  | cons y ys ih =>
    simp only [insertRO, List.map_cons, insertI]
    split
    · rfl
    · rw [List.map_cons, ih]

theorem sortRO_keys (l : List RO) :
    (sortRO l).map (fun ro => ro.value.getD 0) = sortI (l.map fun ro => ro.value.getD 0) := by
  induction l with
  | nil => rfl
  | cons x l ih =>
    show (insertRO x (sortRO l)).map _ = insertI _ (sortI _)
    rw [insertRO_keys, ih]

theorem mem_insertRO (x : RO) (l : List RO) (r : RO) : r ∈ insertRO x l ↔ r = x ∨ r ∈ l := by
  induction l with
  | nil => simp [insertRO]
  | cons y ys ih =>
    unfold insertRO
    split
    · simp
    · simp only [List.mem_cons, ih]; exact or_left_comm

theorem mem_sortRO {l : List RO} {r : RO} : r ∈ sortRO l ↔ r ∈ l := by
  induction l with
  | nil => simp [sortRO]
  | cons x l ih =>
    show r ∈ insertRO x (sortRO l) ↔ _
    rw [mem_insertRO, ih, List.mem_cons]

theorem sortRO_values (l : List RO) (hl : ∀ ro ∈ l, ro.value.isSome) :
    (sortRO l).filterMap RO.value = sortI (l.filterMap RO.value)
    ∧ ∀ ro ∈ sortRO l, ro.value.isSome := by
  have hs : ∀ ro ∈ sortRO l, ro.value.isSome := fun ro h => hl ro (mem_sortRO.mp h)
  exact ⟨by rw [filterMap_value_live hs, filterMap_value_live hl, sortRO_keys], hs⟩

theorem sel_values {sorted : List RO} (hs : ∀ ro ∈ sorted, ro.value.isSome) (idxs : List Nat)
    (excluded : List Nat) :
    ((idxs.filterMap fun j => sorted[j]?) ++
        excluded.filterMap fun j => (sorted[j]?).map euthanize).filterMap RO.value
      = idxs.filterMap fun j => (sorted.filterMap RO.value)[j]? := by
  have h2 : (excluded.filterMap fun j => (sorted[j]?).map euthanize).filterMap RO.value = [] := by
    rw [List.filterMap_filterMap, List.filterMap_eq_nil_iff]
    intro j _
    cases sorted[j]? <;> rfl
  rw [List.filterMap_append, h2, List.append_nil, List.filterMap_filterMap, filterMap_value_live hs]
  apply List.filterMap_congr
  intro j _
  rw [List.getElem?_map]
  cases hj : sorted[j]? with
  | none => rfl
  | some ro =>
    obtain ⟨v, hv⟩ := Option.isSome_iff_exists.mp (hs ro (List.mem_of_getElem? hj))
    simp [hv]

theorem values_filter_map (p : Int → Bool) {l : List RO} (hl : ∀ ro ∈ l, ro.value.isSome) :
    (l.map fun ro => if p (ro.value.getD 0) then ro else euthanize ro).filterMap RO.value
      = (l.filterMap RO.value).filter p := by
  rw [filterMap_value_live hl, List.filterMap_map, ← List.filterMap_eq_filter, List.filterMap_map]
  apply List.filterMap_congr
  intro ro hro
  obtain ⟨v, hv⟩ := Option.isSome_iff_exists.mp (hl ro hro)
  by_cases hp : p v = true <;> simp [hv, hp, euthanize_value, Option.guard]

theorem filterMap_substMap (p : Int → Bool) (f : Int → Int) {l : List RO} (hl : ∀ o ∈ l, o.value.isSome) :
    (l.map fun o =>
        if p (o.value.getD 0) then RO.mk (some (f (o.value.getD 0))) [o] false else o).filterMap RO.value
      = (l.filterMap RO.value).map fun v => if p v then f v else v := by
  rw [filterMap_value_live hl, List.map_map, List.filterMap_map, ← List.filterMap_eq_map]
  apply List.filterMap_congr
  intro ro hro
  obtain ⟨v, hv⟩ := Option.isSome_iff_exists.mp (hl ro hro)
  by_cases hp : p v = true <;> simp [hv, hp, RO.value_mk]

theorem RO.value_adoptAppend (o ro : RO) : (RO.adoptAppend o ro).value = ro.value := by
  cases ro; rfl

theorem filterMap_adoptAppend (o : RO) (l : List RO) :
    (l.map (RO.adoptAppend o)).filterMap RO.value = l.filterMap RO.value := by
  rw [List.filterMap_map]
  exact List.filterMap_congr fun ro _ => RO.value_adoptAppend o ro

/-- what a step of the substitution loop yields, as values -/
def stepVals (res : List RO × List RollRec) : List Int := res.1.filterMap RO.value

variable (mk : List RO → List RollRec → RollRec) (hmk : KeepsValues mk)
include hmk

/-- **substitution, values**: forgetting the records, `_expanded_roll_outcomes` is `denExpand` -/
theorem values_expandW (p : Int → Bool) (rollE : W RollRec) (denE : W (List Int))
    (hE : mapW RollRec.values rollE = denE) (replace : Bool) :
    ∀ (k : Nat) (roll : RollRec),
      mapW stepVals (expandW mk p rollE replace k roll) = denExpand p denE replace k roll.values := by
  subst hE
  intro k
  induction k with
  | zero =>
    intro roll
    rw [expandW, denExpand, mapW_pure]
    simp only [stepVals, filterMap_filter_isSome]
    rfl
  | succ k ih =>
    intro roll
    rw [expandW, denExpand]
    have hlive : ∀ o ∈ (roll.outcomes.filter fun ro => ro.value.isSome), o.value.isSome :=
      fun _ => List.of_mem_filter
    have hvals : roll.values
        = (roll.outcomes.filter fun ro => ro.value.isSome).map fun ro => ro.value.getD 0 := by
      rw [← filterMap_value_live hlive, filterMap_filter_isSome]; rfl
    rw [hvals]
    refine mapW_foldl stepVals (fun ro : RO => ro.value.getD 0) fun o ho st => ?_
    obtain ⟨v, hv⟩ := Option.isSome_iff_exists.mp (hlive o ho)
    simp only [hv, Option.getD_some]
    by_cases hp : p v = true
    · rw [if_pos hp, if_pos hp]
      refine mapW_bind_of rfl fun er => ?_
      have hadopt : (mk (er.outcomes.map (RO.adoptAppend o)) er.sourceRolls).values = er.values := by
        rw [hmk, filterMap_adoptAppend]; rfl
      refine mapW_bind_of (by rw [ih, hadopt]) fun sub => ?_
      rw [mapW_pure]
      cases replace with
      | true =>
        simp only [stepVals, if_true, List.append_assoc, List.cons_append, List.nil_append,
          List.filterMap_append, List.filterMap_cons_none (euthanize_value o), List.append_nil]
      | false =>
        simp only [stepVals, Bool.false_eq_true, if_false, List.append_assoc, List.cons_append,
          List.nil_append, List.filterMap_append, List.filterMap_cons_some hv]
    · rw [if_neg hp, if_neg hp, mapW_pure]
      simp only [stepVals, List.filterMap_append, List.filterMap_cons_some hv, List.filterMap_nil]

mutual
theorem values_rollAllW : ∀ (rs : List RTree),
    mapW (fun l => l.flatMap RollRec.values) (rollAllW mk rs) = denAll rs
  | [] => rfl
  | s :: ss => by
    exact mapW_bind_of (values_rollW s) fun r => mapW_bind_of (values_rollAllW ss) fun rs => rfl

/-- **C11 core (fusion)**: forgetting the records, the roller semantics is the compositional
denotation -/
theorem values_rollW : ∀ (r : RTree), mapW RollRec.values (rollW mk r) = den r
  -- `rollW` and `den` reduce to their clauses for the node, so `mapW_bind_of` applies without unfolding
  -- them first
  | .value (.scalar v) => by
    rw [rollW, den, mapW_pure, hmk]
    rfl
  | .value (.hist h) => by
    refine (mapW_bind _ _ _).trans (bind_congr fun v => ?_)
    rw [mapW_pure, hmk]
    rfl
  | .value (.pool hs) => by
    refine (mapW_bind _ _ _).trans (bind_congr fun vs => ?_)
    rw [mapW_pure, hmk]
    simp only [RO.value, List.filterMap_map, Function.comp_def, List.filterMap_some]
  | .pool srcs => by
    rw [rollW, den, mapW_bind, ← values_rollAllW srcs, ← bind_pure_mapW]
    apply bind_congr
    intro rs
    rw [mapW_pure, hmk, values_live]
  | .rep n src => by
    refine mapW_bind_of (by rw [mapW_replicateW, values_rollW src]) fun rs => ?_
    rw [mapW_pure, hmk, values_live, List.flatMap_def]
  | .bin op l r => by
    refine mapW_bind_of (values_rollW l) fun rl => ?_
    refine mapW_bind_of (values_rollW r) fun rr => ?_
    rw [mapW_pure, hmk, values_single, sumOperand_value, sumOperand_value]
    rfl
  | .un op s => by
    refine mapW_bind_of (values_rollW s) fun rs => ?_
    rw [mapW_pure, hmk, values_single, sumOperand_value]
    rfl
  | .unChain ops s => by
    refine mapW_bind_of (values_rollW s) fun rs => ?_
    rw [mapW_pure, hmk]
    have h := chainRO_value ops (sumOperand_value rs)
    simp only [List.filterMap_cons, List.filterMap_nil, h]
  | .filt p srcs => by
    refine mapW_bind_of (values_rollAllW srcs) fun rs => ?_
    rw [mapW_pure, hmk, values_filter_map p (live_isSome rs), values_live]
  | .sel which srcs => by
    refine mapW_bind_of (values_rollAllW srcs) fun rs => ?_
    have hsorted := sortRO_values (liveOutcomes rs) (live_isSome rs)
    have hlen : (sortRO (liveOutcomes rs)).length = (sortI (rs.flatMap RollRec.values)).length := by
      rw [← values_live, ← hsorted.1, filterMap_value_live hsorted.2, List.length_map]
    simp only [hlen]
    cases resolve (sortI (rs.flatMap RollRec.values)).length which with
    | error e =>
      simp only [mapW_pure]
      rw [hmk]
      rfl
    | ok idxs =>
      simp only [mapW_pure]
      rw [hmk, sel_values hsorted.2, hsorted.1, values_live]
  | .subst p e replace maxDepth src => by
    refine mapW_bind_of (values_rollW src) fun sr => ?_
    rw [mapW_bind, ← values_expandW mk hmk p (rollW mk e) (den e) (values_rollW e) replace maxDepth sr,
      ← bind_pure_mapW]
    apply bind_congr
    intro res
    rw [mapW_pure, hmk]
    rfl
  | .substMap p f maxDepth src => by
    refine mapW_bind_of (values_rollW src) fun sr => ?_
    rw [mapW_pure, hmk]
    refine congrArg pure ?_
    by_cases hm : maxDepth = 0
    · rw [if_pos hm, if_pos hm, filterMap_filter_isSome]
      rfl
    · rw [if_neg hm, if_neg hm, filterMap_substMap p f fun _ => List.of_mem_filter,
        filterMap_filter_isSome]
      rfl
end

end Dyce
