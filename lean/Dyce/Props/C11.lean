import Dyce.RollerProofs
import Dyce.RollProofs
/-!
# C11 — Roller trees produce exactly the distribution their expression denotes

> For any roller tree built from value, pool, repeat, arithmetic/comparison, selection, filter and
> substitution rollers, the exact distribution (over all random choices) of the tuple of outcomes
> of r.roll() equals the one obtained by evaluating the same expression by enumeration with
> histograms and pools. Leaves draw afresh and independently at every place they occur, binary and
> unary nodes apply their operator to the sums of their sources' outcomes, selection indexes the
> ascending-sorted pooled outcomes in the order requested, filters keep the satisfying outcomes in
> order, dropped outcomes never contribute, and substitution re-rolls at most max_depth times,
> replacing or appending as configured.

`rollW` mirrors each `roll()` method (records and all) in the weighted-list monad; `den` is the
compositional, record-free denotation that is literally the sentences above.

| clause | theorem |
|---|---|
| for every tree, path by path, the outcome tuple of the record semantics is the denotation — also for substitution (re-roll a roller, REPLACE / APPEND, any max_depth; or relabel with a fresh outcome) | `C11_values_fusion` (+ `C11_values_fusion_pinned` for the pinned constructor) |
| leaves: weighted choice among positive-count faces | `C11_leaf` (C10) |
| pool / repeat: independent concatenation, `n` fresh repetitions | `C11_pool`, `C11_repeat` |
| binary / unary: operator on the SUMS of the sources' outcomes | `C11_binary`, `C11_unary` |
| a custom operator made of several steps: their composition, on the sum of the source's outcomes | `C11_custom_chain` |
| selection: positions of the ascending-sorted pooled outcomes, in the order requested | `C11_selection` |
| the sort that selection uses (`sortI`) permutes the pooled outcomes | `C11_sortI_perm` |
| filter: satisfying outcomes in order | `C11_filter` |
| substitution: at most `max_depth` nested re-rolls, replaced or appended | `C11_substitution`, `C11_substitution_depth_zero` |
| one level of substitution: a satisfying outcome is replaced (or followed) by a fresh roll of the expansion roller, expanded with one level less | `C11_substitution_step` |
| pool leaves = `P.roll` = `rolls_with_counts` distribution | `C10_proll_matches_rolls_with_counts` |

`import Dyce.RollProofs` matters to the statements, not to the proofs: it loads Mathlib, and `a.sum` in
`C11_binary`, `C11_unary`, `C11_custom_chain` is meant with Mathlib's `List.sum` instances.
-/
namespace Dyce

theorem C11_values_fusion (r : RTree) : mapW RollRec.values (rollW mkRollDeep r) = den r :=
  values_rollW mkRollDeep keepsValues_deep r

theorem C11_values_fusion_pinned (r : RTree) : mapW RollRec.values (rollW mkRollTop r) = den r :=
  values_rollW mkRollTop keepsValues_top r

theorem C11_leaf (h : Hist Int) : den (.value (.hist h)) = (do let v ← rollHist h; pure [v]) := rfl

theorem C11_pool (s : RTree) (ss : List RTree) :
    den (.pool (s :: ss)) = (do let a ← den s; let b ← den (.pool ss); pure (a ++ b)) := rfl

theorem C11_repeat (n : Nat) (src : RTree) :
    den (.rep n src) = (do let rs ← replicateW n (den src); pure rs.flatten) := rfl

theorem C11_binary (op : Int → Int → Int) (l r : RTree) :
    den (.bin op l r) = (do let a ← den l; let b ← den r; pure [op a.sum b.sum]) := rfl

theorem C11_unary (op : Int → Int) (s : RTree) :
    den (.un op s) = (do let a ← den s; pure [op a.sum]) := rfl

/-- a custom operator that combines RollOutcome operations in several steps applies their composition
to the sum of the source's outcomes -/
theorem C11_custom_chain (ops : List (Int → Int)) (s : RTree) :
    den (.unChain ops s) = (do let a ← den s; pure [ops.foldl (fun v f => f v) a.sum]) := rfl

theorem C11_filter (p : Int → Bool) (srcs : List RTree) :
    den (.filt p srcs) = (do let vs ← den (.pool srcs); pure (vs.filter p)) := rfl

theorem C11_selection (which : List Sel) (srcs : List RTree) :
    den (.sel which srcs) = (do
      let vs ← den (.pool srcs)
      let sorted := sortI vs
      match resolve sorted.length which with
      | .error _ => pure []
      | .ok idxs => pure (idxs.filterMap fun j => sorted[j]?)) := rfl

theorem C11_substitution (p : Int → Bool) (e : RTree) (replace : Bool) (maxDepth : Nat) (src : RTree) :
    den (.subst p e replace maxDepth src) = (do let vs ← den src; denExpand p (den e) replace maxDepth vs) := rfl

/-- with no depth left nothing is substituted -/
theorem C11_substitution_depth_zero (p : Int → Bool) (denE : W (List Int)) (replace : Bool) (vs : List Int) :
    denExpand p denE replace 0 vs = pure vs := rfl

/-- one level: an outcome satisfying the predicate is replaced by (or followed by) a fresh roll of the
expansion roller, itself expanded with one level less; any other outcome is kept -/
theorem C11_substitution_step (p : Int → Bool) (denE : W (List Int)) (replace : Bool) (k : Nat) (vs : List Int) :
    denExpand p denE replace (k + 1) vs
      = vs.foldl
          (fun acc v => do
            let outs ← acc
            if p v then do
              let ev ← denE
              let sub ← denExpand p denE replace k ev
              pure (outs ++ (if replace then [] else [v]) ++ sub)
            else pure (outs ++ [v]))
          (pure []) := rfl

/-- the sortedness used by selection is a genuine sort of the pooled outcomes -/
theorem C11_sortI_perm (l : List Int) : (sortI l).Perm l := by
  induction l with
  | nil => exact List.Perm.refl _
  | cons x l ih =>
    have hfold : sortI (x :: l) = insertI x (sortI l) := rfl
    rw [hfold]
    have hins : ∀ (y : Int) (m : List Int), (insertI y m).Perm (y :: m) := by
      intro y m
      induction m with
      | nil => exact List.Perm.refl _
      | cons z m ihm =>
        unfold insertI
        split
        · exact List.Perm.refl _
        · exact (List.Perm.cons z ihm).trans (List.Perm.swap y z m)
    exact (hins x (sortI l)).trans (List.Perm.cons x ih)

/-! non-vacuity -/
example : den (.bin (· + ·) (.rep 2 (.value (.hist [(1, 1), (2, 1)]))) (.value (.scalar 1)))
    = [([3], 1), ([4], 1), ([4], 1), ([5], 1)] := by decide +kernel

end Dyce
