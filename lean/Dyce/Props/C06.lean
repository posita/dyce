import Dyce.AggProofs
import Dyce.EvalRefine
import Dyce.HistProofs
/-!
# C06 — Dependent-term evaluation computes the exact weighted mixture

> foreach, or an @expandable function, called on independent sources returns in lowest terms
> exactly the mixture: the sum over the Cartesian product of source results of the product of their
> probabilities times the callback's returned outcome or normalised histogram, where a branch
> returning the empty histogram is dropped and the rest renormalised (a source without any positive
> count therefore gives the empty histogram). Pool sources present each ascending-sorted roll
> weighted by its exact count, each callback parameter receives the result of the source passed in
> that position or keyword together with that source, and aggregate_weighted and the deprecated
> H.foreach/P.foreach compute the same mixture.

| clause | theorem |
|---|---|
| evaluation = `aggregate_weighted` over the Cartesian product of the presented results (counts multiplied), lowest terms at top level, context untouched | `C06_evaluation_is_aggregate` |
| `aggregate_weighted`: every count is `S · Σ cntᵢ · Pᵢ(z)` with `S > 0` | `C06_aggregate_count` |
| total `S · Σ cntᵢ · keptᵢ` | `C06_aggregate_total` |
| probability of `z` = renormalised mixture, empty branches dropped | `C06_aggregate_mixture` |
| everything dropped ⇒ empty histogram | `C06_all_dropped` |
| what pool sources present | `C02_noargs`, `C02_selection` |
| parameter `j` receives the result of source `j` | by construction of `branches` (`C06_branches_positions`) + checked by identity in the harness |
-/
namespace Dyce

variable {α ρ : Type}

theorem C06_evaluation_is_aggregate (env : Nat → Fn α ρ) (agg : List (Ret α × Nat) → Hist α)
    (lowest : Hist α → Hist α) (fuel fn : Nat) (srcs : List (Src ρ)) (lim : Option Limit) (c : Cell)
    (g : List ρ → Ret α) (hbody : ∀ ids, (env fn).body ids = .ret (g ids))
    (hcut : cutNow ((lim.orElse fun _ => (c.getD ⟨none, 0, 1, 1⟩).limit).getD (.int 1))
      (c.getD ⟨none, 0, 1, 1⟩) = false) :
    evalFn env agg lowest (fuel + 1) fn srcs lim c
      = (.ok ((if (c.getD ⟨none, 0, 1, 1⟩).depth = 0 then lowest else id)
          (agg ((branches srcs).map fun bw => (g bw.1, bw.2)))), c) := by
  rw [evalFn_refines, specEval_of_ok rfl hcut (fun bw => g bw.1)]
  intro bw _
  rw [hbody]
  rfl

/-- a fresh interpreter with the default limit is never cut at the top level -/
theorem C06_toplevel_not_cut : cutNow (((none : Option Limit).orElse fun _ => ((none : Cell).getD ⟨none, 0, 1, 1⟩).limit).getD (.int 1))
    ((none : Cell).getD ⟨none, 0, 1, 1⟩) = false := by decide

/-- every branch lists one result per source, in source order, with the product of the counts -/
theorem C06_branches_positions (s : Src ρ) (ss : List (Src ρ)) :
    branches (s :: ss) = s.results.flatMap fun rc => (branches ss).map fun bw => (rc.1 :: bw.1, rc.2 * bw.2) := rfl

variable [DecidableEq α]

theorem C06_aggregate_count (brs : List (Ret α × Nat)) (z : α) :
    0 < (aggregate brs).1 ∧
    (countOf z (aggregate brs).2 : ℚ)
      = (aggregate brs).1 * (brs.map fun b => (b.2 : ℚ) * brProb z b.1).sum :=
  aggregate_count brs z

theorem C06_aggregate_total (brs : List (Ret α × Nat)) :
    (total (aggregate brs).2 : ℚ)
      = (aggregate brs).1 * (brs.map fun b => (b.2 : ℚ) * brKept b.1).sum :=
  aggregate_total brs

theorem C06_aggregate_mixture (brs : List (Ret α × Nat)) (z : α)
    (hw : (brs.map fun b => (b.2 : ℚ) * brKept b.1).sum ≠ 0) :
    (countOf z (aggregate brs).2 : ℚ) / (total (aggregate brs).2 : ℚ)
      = (brs.map fun b => (b.2 : ℚ) * brProb z b.1).sum
          / (brs.map fun b => (b.2 : ℚ) * brKept b.1).sum :=
  aggregate_mixture brs z

theorem C06_all_dropped (brs : List (Ret α × Nat))
    (hall : ∀ b ∈ brs, ∃ h, b.1 = Ret.hist h ∧ total h = 0) : (aggregate brs).2 = [] := by
  have : ∀ (st : Nat × List (α × Nat)), brs.foldl aggStep st = st := by
    induction brs with
    | nil => exact fun _ => rfl
    | cons b brs ih =>
      intro st
      obtain ⟨r, c⟩ := b
      obtain ⟨h, rfl, h0⟩ := hall (r, c) List.mem_cons_self
      rw [List.foldl_cons, aggStep_dropped st c h0]
      exact ih (fun b' hb' => hall b' (List.mem_cons_of_mem _ hb')) st
  exact congrArg Prod.snd (this _)

/-- the constructor applied to the accumulated pairs does not change any count -/
theorem C06_aggregateWeighted_count (le : α → α → Bool) (brs : List (Ret α × Nat)) (z : α) :
    countOf z (aggregateWeighted le brs) = countOf z (aggregate brs).2 := by
  unfold aggregateWeighted; exact countOf_ofItems le _ z

/-! non-vacuity -/
example : ((([(Ret.out (1 : Int), 2), (Ret.hist [(1, 1), (2, 3)], 1), (Ret.hist [], 5)] : List (Ret Int × Nat)).map
    fun b => (b.2 : ℚ) * brKept b.1).sum) ≠ 0 := by
  -- the branches are kept, kept, dropped: the sum is `2·1 + 1·1 + 5·0`
  show ((2 : ℕ) : ℚ) * 1 + (((1 : ℕ) : ℚ) * 1 + (((5 : ℕ) : ℚ) * 0 + 0)) ≠ 0
  norm_num

end Dyce
