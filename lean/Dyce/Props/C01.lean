import Dyce.HistProofs
/-!
# C01 — Histogram arithmetic is the exact convolution of independent outcomes

> For any histograms a and b and any supported binary operator, the count of outcome z in
> `a op b` is exactly the sum of a[x]*b[y] over all pairs with `x op y == z`, so its total is
> a.total*b.total; with a scalar operand (on either side) or a unary operator every outcome is
> relabelled, counts of colliding outcomes add, and the total is preserved. A pool used as an
> operand behaves exactly as its flattened histogram, and zero-count or unreduced counts in the
> operands never change any positive count of the result beyond the stated formula.

The theorems quantify over *every* function `op` (so over every operator `H`/`P` expose: arithmetic,
bitwise, comparisons — Bool-valued `op` —, `within`/`vs` — `op x y = cmp (x - y)` —, parity tests),
every pair of histograms (any counts incl. 0, any scale, empty) and every Boolean order `le` used to
sort the result.

| clause | theorem |
|---|---|
| count of `z` in `a op b` | `C01_convolution` |
| total of `a op b` | `C01_total` |
| scalar on the right (`H.map(op, s)`), on the left (`H.rmap(s, op)`), unary (`H.umap`) | `C01_relabel`, `C01_relabel_total`, `C01_scalar_right`, `C01_scalar_left` |
| result outcomes strictly ascending, each once | `C01_result_sorted` |
| pool operand = its flattened histogram | `C01_pool_operand` (+ `C03_noargs`: `P.h()` is the sum of the dice) |
| zero-count entries never change a count | `C01_zero_pad_left`, `C01_zero_pad_right` |
| the formula is symmetric in the operands: `a op b` and `b op' a` (`op'` = `op` with its arguments swapped) have the same counts, so a commutative operator commutes on histograms | `C01_swap`, `C01_commutative` |
| iterating the formula: for an associative operator `(a op b) op c` and `a op (b op c)` have the same counts (sums of several dice do not depend on bracketing) | `C01_associative` |
| unreduced counts scale the result linearly | `C01_scale_left`, `C01_scale_right` |
-/
namespace Dyce

variable {α β γ : Type} [DecidableEq γ]

theorem C01_convolution (le : γ → γ → Bool) (op : α → β → γ) (a : Hist α) (b : Hist β) (z : γ) :
    countOf z (mapH le op a b)
      = wsum a (fun x => wsum b (fun y => if op x y = z then 1 else 0)) :=
  countOf_mapH le op a b z

theorem C01_swap (le : γ → γ → Bool) (op : α → β → γ) (a : Hist α) (b : Hist β) (z : γ) :
    countOf z (mapH le op a b) = countOf z (mapH le (fun y x => op x y) b a) := by
  rw [countOf_mapH, countOf_mapH, wsum_swap]

theorem C01_commutative (le : γ → γ → Bool) (op : α → α → γ) (hop : ∀ x y, op x y = op y x)
    (a b : Hist α) (z : γ) : countOf z (mapH le op a b) = countOf z (mapH le op b a) := by
  rw [C01_swap]
  simp only [hop]

theorem C01_associative {α : Type} [DecidableEq α] (le : α → α → Bool) (op : α → α → α)
    (hop : ∀ x y w, op (op x y) w = op x (op y w)) (a b c : Hist α) (z : α) :
    countOf z (mapH le op (mapH le op a b) c) = countOf z (mapH le op a (mapH le op b c)) := by
  rw [countOf_mapH, wsum_mapH, countOf_mapH]
  simp only [wsum_mapH, hop]

theorem C01_total (le : γ → γ → Bool) (op : α → β → γ) (a : Hist α) (b : Hist β) :
    total (mapH le op a b) = total a * total b :=
  total_mapH le op a b

theorem C01_relabel (le : γ → γ → Bool) (f : α → γ) (a : Hist α) (z : γ) :
    countOf z (umapH le f a) = wsum a (fun x => if f x = z then 1 else 0) :=
  countOf_umapH le f a z

theorem C01_relabel_total (le : γ → γ → Bool) (f : α → γ) (a : Hist α) :
    total (umapH le f a) = total a :=
  total_umapH le f a

/-- `H.map(op, s)` for a scalar `s`: operand order `x op s` -/
def mapScalarR (le : γ → γ → Bool) (op : α → β → γ) (a : Hist α) (s : β) : Hist γ :=
  umapH le (fun x => op x s) a

/-- `H.rmap(s, op)`: operand order `s op x` -/
def mapScalarL (le : γ → γ → Bool) (op : β → α → γ) (s : β) (a : Hist α) : Hist γ :=
  umapH le (fun x => op s x) a

theorem C01_scalar_right (le : γ → γ → Bool) (op : α → β → γ) (a : Hist α) (s : β) (z : γ) :
    countOf z (mapScalarR le op a s) = wsum a (fun x => if op x s = z then 1 else 0) ∧
    total (mapScalarR le op a s) = total a :=
  ⟨countOf_umapH le _ a z, total_umapH le _ a⟩

theorem C01_scalar_left (le : γ → γ → Bool) (op : β → α → γ) (s : β) (a : Hist α) (z : γ) :
    countOf z (mapScalarL le op s a) = wsum a (fun x => if op s x = z then 1 else 0) ∧
    total (mapScalarL le op s a) = total a :=
  ⟨countOf_umapH le _ a z, total_umapH le _ a⟩

/-- a scalar operand behaves like the one-outcome histogram `{s: 1}` -/
theorem C01_scalar_as_hist (le : γ → γ → Bool) (op : α → β → γ) (a : Hist α) (s : β) (z : γ) :
    countOf z (mapScalarR le op a s) = countOf z (mapH le op a [(s, 1)]) := by
  rw [(C01_scalar_right le op a s z).1, C01_convolution]
  refine wsum_congr fun x _ => ?_
  rw [wsum_cons, wsum_nil, Nat.one_mul, Nat.add_zero]

theorem C01_result_sorted {le : γ → γ → Bool} (hle : TotalOrderB le) (op : α → β → γ)
    (a : Hist α) (b : Hist β) : Asc le (mapH le op a b) :=
  asc_ofItems hle _

/-- a pool as the left operand: `P op b` is `P.h() op b` -/
def poolMapH [DecidableEq α] [AddCommMonoid α] (leα : α → α → Bool) (le : γ → γ → Bool)
    (op : α → β → γ) (dice : List (Hist α)) (b : Hist β) : Hist γ :=
  mapH le op (sumH leα 0 (· + ·) dice) b

theorem C01_pool_operand [DecidableEq α] [AddCommMonoid α] (leα : α → α → Bool) (le : γ → γ → Bool)
    (op : α → β → γ) (dice : List (Hist α)) (hne : dice ≠ []) (b : Hist β) (z : γ) :
    countOf z (poolMapH leα le op dice b)
      = wsum (poolTuples dice) (fun t => wsum b (fun y => if op t.sum y = z then 1 else 0)) := by
  rw [poolMapH, C01_convolution, wsum_sumH, if_neg hne]
  simp only [← List.sum_eq_foldl]

theorem wsum_zero_entry {δ} (x : δ) (f : δ → Nat) : wsum [(x, 0)] f = 0 := by simp [wsum]

theorem C01_zero_pad_left (le : γ → γ → Bool) (op : α → β → γ) (a₁ a₂ : Hist α) (x : α)
    (b : Hist β) (z : γ) :
    countOf z (mapH le op (a₁ ++ (x, 0) :: a₂) b) = countOf z (mapH le op (a₁ ++ a₂) b) := by
  simp only [C01_convolution, wsum_append, wsum_cons, Nat.zero_mul, Nat.zero_add]

theorem C01_zero_pad_right (le : γ → γ → Bool) (op : α → β → γ) (a : Hist α) (b₁ b₂ : Hist β)
    (y : β) (z : γ) :
    countOf z (mapH le op a (b₁ ++ (y, 0) :: b₂)) = countOf z (mapH le op a (b₁ ++ b₂)) := by
  simp only [C01_convolution, wsum_append, wsum_cons, Nat.zero_mul, Nat.zero_add]

theorem C01_scale_left (le : γ → γ → Bool) (op : α → β → γ) (k : Nat) (a : Hist α) (b : Hist β) (z : γ) :
    countOf z (mapH le op (scaleH k a) b) = k * countOf z (mapH le op a b) := by
  simp only [C01_convolution, wsum_scaleH]

theorem C01_scale_right (le : γ → γ → Bool) (op : α → β → γ) (k : Nat) (a : Hist α) (b : Hist β) (z : γ) :
    countOf z (mapH le op a (scaleH k b)) = k * countOf z (mapH le op a b) := by
  simp only [C01_convolution, wsum_scaleH]
  rw [← wsum_mul_left]

/-! non-vacuity / sanity: a non-injective operator on operands with zero and unreduced counts -/
example : countOf (0 : Int) (mapH (fun a b : Int => decide (a ≤ b)) (fun x y : Int => x % y)
    [(2, 2), (3, 0), (4, 1)] [(1, 1), (2, 4)]) = 15 := by
  rw [C01_convolution]; decide

end Dyce
