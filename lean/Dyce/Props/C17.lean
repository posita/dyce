import Dyce.RngModel
import Mathlib.Algebra.Group.Nat.Defs
/-!
# C17 — The NumPy-backed generator is a faithful, reproducible random.Random

> For every seed and every interleaving of random.Random sampling methods, two generators seeded
> alike - or one generator re-seeded with the same value - produce identical streams, and
> setstate(getstate()) taken at any point replays exactly the continuation that followed the
> snapshot. Distinct instances never influence one another, getrandbits(k) lies in [0, 2**k) for
> every k >= 0 and rejects negative k, randbytes(n) has length n, random() lies in [0, 1), and
> dyce.rng.RNG defaults to such a generator when NumPy is importable.

The model is the wrapper as written: PCG64-DXSM (checked bit for bit against NumPy by the
correspondence), `Generator.bytes`, `random` / `getrandbits` / `randbytes`, and `seed` / `getstate`
/ `setstate` with `random.Random`'s own `gauss_next` cell.  Every other sampling method of
`random.Random` is a stateless client of these primitives.

| clause | theorem |
|---|---|
| `getrandbits(k) ∈ [0, 2**k)` for every `k ≥ 0`; negative `k` rejected, state untouched | `C17_getrandbits_range`, `C17_getrandbits_negative` |
| `randbytes(n)` has length `n` | `C17_randbytes_length` |
| `random() ∈ [0, 1)` (numerator `< 2**53`) | `C17_random_range` |
| `setstate(getstate())` at any point replays the continuation — every op sequence incl. `gauss` | `C17_replay` |
| generators seeded alike / re-seeding produce identical streams | `C17_same_seed` |
| streams are functions of the instance's own state only | `C17_deterministic` |
| the pinned `getstate`/`setstate` (without `gauss_next`) did not replay `gauss` | `C17_pinned_gauss_counterexample` |

Partial: NumPy's SeedSequence (seed → initial state) is an abstract function; CPython's derived
methods are exercised on the real object only.

The Mathlib import matters to the statements, not to the proofs: `2 ^ n` in the two range theorems is
meant with Mathlib's `Monoid.npow` on `ℕ`.
-/
namespace Dyce.Rng
open List

/-- big-endian digits below the base `B` -/
theorem foldl_digits_lt (B : Nat) (ds : List Nat) (hd : ∀ d ∈ ds, d < B) (acc : Nat) :
    ds.foldl (fun a d => a * B + d) acc < (acc + 1) * B ^ ds.length := by
  induction ds generalizing acc with
  | nil => simp
  | cons d ds ih =>
    rw [List.foldl_cons, List.length_cons, Nat.pow_succ', ← Nat.mul_assoc]
    refine Nat.lt_of_lt_of_le (ih (fun x hx => hd x (mem_cons_of_mem _ hx)) _)
      (Nat.mul_le_mul_right _ ?_)
    show acc * B + d + 1 ≤ (acc + 1) * B
    rw [Nat.add_one_mul]
    exact Nat.add_le_add_left (hd d mem_cons_self) _

theorem fromBytesBig_lt (bs : List Nat) (hb : ∀ b ∈ bs, b < 256) : fromBytesBig bs < 256 ^ bs.length := by
  simpa [fromBytesBig] using foldl_digits_lt 256 bs hb 0

/-- dropping the surplus low bits of an `nb`-byte number leaves a `k`-bit number -/
theorem shiftRight_lt_two_pow {x nb k : Nat} (hx : x < 256 ^ nb) (hk : k ≤ nb * 8) :
    x >>> (nb * 8 - k) < 2 ^ k := by
  rw [Nat.shiftRight_eq_div_pow, Nat.div_lt_iff_lt_mul (Nat.two_pow_pos _), ← Nat.pow_add,
    Nat.add_sub_cancel' hk, Nat.mul_comm, Nat.pow_mul]
  -- `2 ^ k * 2 ^ (nb * 8 - k) = 2 ^ (nb * 8) = (2 ^ 8) ^ nb`, and `2 ^ 8` is `256`
  exact hx

theorem le4_lt (x : Nat) : ∀ b ∈ le4 x, b < 256 := by
  intro b hb
  simp only [le4, List.mem_cons, List.mem_nil_iff, or_false] at hb
  rcases hb with rfl | rfl | rfl | rfl <;> exact Nat.mod_lt _ (by decide)

theorem draw32s_length (k : Nat) (g : Pcg) : (draw32s k g).1.length = k := by
  induction k generalizing g with
  | zero => rfl
  | succ k ih => simp only [draw32s, List.length_cons, ih]

theorem flatMap_le4_length (ws : List Nat) : (ws.flatMap le4).length = 4 * ws.length := by
  induction ws with
  | nil => rfl
  | cons w ws ih =>
    rw [List.flatMap_cons, List.length_append, ih, List.length_cons, Nat.mul_succ, Nat.add_comm]
    rfl

theorem randbytes_bytes (g : Pcg) (n : Nat) : ∀ b ∈ (randbytes g n).1, b < 256 := by
  intro b hb
  unfold randbytes at hb
  have := List.mem_of_mem_take hb
  obtain ⟨w, _, hw⟩ := List.mem_flatMap.mp this
  exact le4_lt w b hw

theorem C17_randbytes_length (g : Pcg) (n : Nat) : (randbytes g n).1.length = n := by
  unfold randbytes
  simp only [List.length_take, flatMap_le4_length, draw32s_length]
  -- `(n - 1) / 4 + 1` words hold at least `n` bytes
  apply Nat.min_eq_left
  split
  · next h => exact h ▸ Nat.zero_le _
  · exact Nat.le_of_pred_lt (Nat.lt_mul_div_succ (n - 1) (by decide))

theorem next64_lt (g : Pcg) : (next64 g).1 < M64 :=
  Nat.mod_lt _ (Nat.two_pow_pos 64)

theorem C17_random_range (g : Pcg) : (random53 g).1 < 2 ^ 53 :=
  -- `M64 = 2 ^ 11 * 2 ^ 53`
  Nat.div_lt_of_lt_mul (next64_lt g)

/-- `(k + 7) / 8` bytes hold at least `k` bits -/
theorem le_bytes_mul_eight (k : Nat) : k ≤ (k + 7) / 8 * 8 :=
  -- from `k + 7 < (k + 7) / 8 * 8 + 8`
  Nat.le_of_lt_succ (Nat.lt_of_add_lt_add_right (n := 7) (Nat.lt_div_mul_add (b := 8) (by decide)))

theorem C17_getrandbits_negative (g : Pcg) (k : Int) (hk : k < 0) :
    getrandbits g k = (.error .valueError, g) := by
  unfold getrandbits
  rw [if_pos hk]

theorem C17_getrandbits_range (g : Pcg) (k : Int) (hk : 0 ≤ k) :
    ∃ x g', getrandbits g k = (.ok x, g') ∧ x < 2 ^ k.toNat := by
  unfold getrandbits
  rw [if_neg (Int.not_lt.mpr hk)]
  refine ⟨_, _, rfl, shiftRight_lt_two_pow ?_ (le_bytes_mul_eight _)⟩
  have := fromBytesBig_lt _ (randbytes_bytes g ((k.toNat + 7) / 8))
  rwa [C17_randbytes_length] at this

/-- **replay**: restoring a snapshot taken at any point reproduces exactly the continuation that
followed it — for every sequence of operations, `gauss` included, whatever happened in between -/
theorem C17_replay (w other : Wrapper) (ops : List Op) :
    (other.setstate w.getstate).run ops = w.run ops := by
  cases w; rfl

/-- two instances seeded alike, or one instance re-seeded with the same value, produce the same
stream -/
theorem C17_same_seed (seedFn : Nat → Pcg) (w₁ w₂ : Wrapper) (a : Nat) (ops : List Op) :
    ((w₁.seed seedFn a).run ops).1 = ((w₂.seed seedFn a).run ops).1 := rfl

theorem C17_deterministic (w₁ w₂ : Wrapper) (h : w₁ = w₂) (ops : List Op) : w₁.run ops = w₂.run ops := by
  rw [h]

/-- **the pinned snapshot did not replay `gauss`** (defect F8): after one `gauss()` the cached variate
is part of what follows, but the pinned `getstate`/`setstate` neither saved nor restored it -/
theorem C17_pinned_gauss_counterexample :
    ∃ (w : Wrapper),
      let w1 := (w.step .gauss).2
      let snap := w1.getstatePinned
      let cont := (w1.run [.gauss]).1
      let w2 := (w1.run [.gauss]).2
      ((w2.setstatePinned snap).run [.gauss]).1 ≠ cont := by
  refine ⟨⟨⟨1, 1, false, 0⟩, none⟩, ?_⟩
  decide

end Dyce.Rng
