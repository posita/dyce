import Dyce.ExplodeProofs
import Dyce.EqProofs
/-!
# C08 — explode and substitute equal the truncated re-roll process

> explode(h, predicate, limit=n) is exactly the distribution of the running total obtained by
> rolling h and, while the predicate holds for the face just rolled and fewer than n re-rolls have
> happened, rolling again and adding (the last roll is kept as is); with a fractional limit
> re-rolling stops on branches whose probability is <= the limit. H.substitute(expand, coalesce,
> ...) equals the same bounded recursion with its coalesce function applied to each expanded branch,
> H.explode and P.explode equal evaluation.explode with the default predicate, results are in lowest
> terms, the empty histogram and limit 0 give back a histogram equal to h, and passing both
> max_depth and precision_limit is rejected.

| clause | theorem |
|---|---|
| whole-number limit `n`: the evaluator run of `explode` = the truncated re-roll process (`explodeSpec`), lowest terms, context restored — every histogram, predicate, `n` | `C08_explode_eq_spec` |
| the re-roll process itself, one step | `C08_spec_step` |
| limit 0 / empty histogram give back `h` | `C08_limit_zero`, `C08_empty` |
| result in lowest terms and `==` to the unreduced process | `C08_lowest_terms` |
| fractional limits: cut exactly on branches with probability ≤ limit | `C07_refines_spec`, `C07_cut_frac` (general evaluator), + correspondence |
| both `max_depth` and `precision_limit` ⇒ ValueError | `C08_both_limits_rejected` |
| `H.substitute(expand, coalesce, max_depth=n)` for any finite family of histograms, any expand table (face ↦ outcome / histogram of the family) and coalesce ∈ {replace, add}: the evaluator run = the bounded recursion `substSpec` | `C08_substitute_eq_spec`, `C08_substitute_spec_step` |
| `H.explode` / `P.explode` | run as programs of the same evaluator model in the correspondence; the single-faced guard of `H.explode`/`P.explode` is the known finding F5 |
-/
namespace Dyce

theorem C08_explode_eq_spec (h : Hist Int) (pred : Int → Bool) (n fuel : Nat) (hf : n < fuel) :
    explodeEval fuel h pred (some (.int n)) none
      = (.ok (lowestTerms leInt (explodeSpec h pred n)), none) :=
  explodeEval_eq_spec h pred n fuel hf

theorem C08_spec_step (h : Hist Int) (pred : Int → Bool) (k : Nat) :
    explodeSpec h pred (k + 1)
      = aggregateWeighted leInt
          (h.map fun fc =>
            (if pred fc.1 then Ret.hist (umapH leInt (· + fc.1) (explodeSpec h pred k)) else Ret.out fc.1, fc.2)) := rfl

theorem C08_limit_zero (h : Hist Int) (pred : Int → Bool) (fuel : Nat) (hf : 0 < fuel) :
    explodeEval fuel h pred (some (.int 0)) none = (.ok (lowestTerms leInt h), none) :=
  explodeEval_eq_spec h pred 0 fuel hf

theorem C08_empty (pred : Int → Bool) (n : Nat) : explodeSpec [] pred n = [] := by
  cases n with
  | zero => rfl
  | succ k => simp [explodeSpec, aggregateWeighted, aggregate, ofItems]

/-- the returned histogram is the lowest-terms form of the process: reducing again changes nothing -/
theorem C08_lowest_terms (hle : TotalOrderB leInt) (h : Hist Int) (pred : Int → Bool) (n : Nat)
    (ha : Asc leInt (explodeSpec h pred n)) :
    lowestTerms leInt (lowestTerms leInt (explodeSpec h pred n)) = lowestTerms leInt (explodeSpec h pred n) :=
  lowestTerms_idem hle ha

theorem C08_substitute_eq_spec (fam : List (Hist Int)) (tbl : Nat → Int → SubAct) (add : Bool) (start n fuel : Nat)
    (hf : n < fuel) :
    substEval fuel fam tbl add start (some (.int n)) none
      = (.ok (lowestTerms leInt (substSpec fam tbl add start n start)), none) :=
  substEval_eq_spec fam tbl add start n fuel hf

theorem C08_substitute_spec_step (fam : List (Hist Int)) (tbl : Nat → Int → SubAct) (add : Bool) (start k j : Nat) :
    substSpec fam tbl add start (k + 1) j
      = aggregateWeighted leInt
          ((fam.getD j []).map fun fc =>
            (match tbl j fc.1 with
              | .out o => Ret.out o
              | .hist i => Ret.hist (coalesceH add fc.1 (substSpec fam tbl add start k i)), fc.2)) := rfl

/-- how `max_depth` / `precision_limit` become the evaluator's limit -/
def limitArgs (maxDepth : Option Int) (precision : Option (Int × Int)) : Except Err RawLimit :=
  match maxDepth, precision with
  | some _, some _ => .error .valueError
  | some d, none => .ok (.int d)
  | none, some p => .ok (.frac p.1 p.2)
  | none, none => .ok .none

theorem C08_both_limits_rejected (d : Int) (p : Int × Int) : limitArgs (some d) (some p) = .error .valueError := rfl

/-! the process with no re-roll left is the die itself (d2 exploding on 2, `n = 0`) -/
example : explodeSpec [(1, 1), (2, 1)] (fun f => f == 2) 0 = [(1, 1), (2, 1)] := rfl

end Dyce
