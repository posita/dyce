import Dyce.GuardModel
import Dyce.Props.C07
/-!
# C19 — Invalid arguments are rejected, never turned into a wrong histogram

> Negative counts, non-integral counts, negative or non-integral repetition counts, parity tests on
> non-integral outcomes, out-of-range or non-index selection positions, inverted within() bounds,
> simultaneous max_depth and precision_limit, illegal recursion limits, and None-valued roll outcomes
> without sources raise the documented exception (ValueError, TypeError or IndexError; the
> type-checker's violation error when runtime type-checking is on) instead of returning a result. A
> rejected call leaves every existing object unchanged and usable, and integral values supplied in
> another numeric type (2.0, Fraction(2), numpy integers, True) are accepted and treated as the
> integer they equal.

Each guard is decision logic over `PyArg` (int, bool, numpy integer, finite float, nan, ±inf,
Fraction, str, None).  With runtime type-checking on, beartype may reject arguments of a wrong CLASS
before these guards run (the correspondence accepts either rejection there).

| clause | theorem |
|---|---|
| `as_int` accepts exactly the arguments whose value is an integer, and returns that integer | `C19_asInt_iff` |
| counts: negative ⇒ ValueError, non-integral ⇒ TypeError, integral in any numeric type accepted | `C19_count` |
| repetition counts likewise | `C19_repeat` |
| parity on non-integral outcomes ⇒ TypeError | `C19_parity` |
| positions: genuine integer types only (else TypeError), in range (else IndexError) | `C19_position` |
| inverted `within` bounds / both limits / `RollOutcome(None)` without sources ⇒ ValueError | `C19_within`, `C19_both_limits`, `C19_roll_outcome` |
| recursion limits: exactly the documented set is accepted; integral types are whole-number limits, Fractions / floats fractional | `C19_limit_int`, `C19_limit_fractional`, `C19_limit_nonfinite` |
| a rejected call changes nothing | C15 (`pureOrFail` steps of `C15_frame_history`) + snapshots in the correspondence |
-/
namespace Dyce.Guard

/-- `as_int` through the value: the numerator, if the argument has a value with denominator 1 -/
theorem asInt_eq (a : PyArg) :
    asInt a = match valueOf a with
      | some (n, d) => if d = 1 then .ok n else .error .typeError
      | none => .error .typeError := by
  cases a <;> rfl

theorem asInt_error {a : PyArg} {e : GErr} (h : asInt a = .error e) : e = .typeError := by
  rw [asInt_eq] at h
  split at h
  · split at h
    · nomatch h
    · exact (Except.error.inj h).symm
  · exact (Except.error.inj h).symm

theorem asIndex_error {a : PyArg} {e : GErr} (h : asIndex a = .error e) : e = .typeError := by
  cases a <;> cases h <;> rfl

/-- a count and a repetition count are checked alike, since `as_int` raises nothing but `TypeError` -/
theorem countGuard_eq_repeatGuard (a : PyArg) : countGuard a = repeatGuard a := by
  unfold countGuard repeatGuard
  cases h : asInt a with
  | ok v => rfl
  | error e => rw [asInt_error h]

/-- a position counted from the end (`i < 0` stands for `i + n`) is in range iff `-n ≤ i < n` -/
theorem wrap_inRange (n : Nat) (i : Int) :
    (0 ≤ (if i < 0 then i + n else i) ∧ (if i < 0 then i + n else i) < n) ↔ (-(n : Int) ≤ i ∧ i < n) := by
  split <;> omega

/-- `as_int` succeeds with `n` exactly when the argument has a value and that value is the integer `n` -/
theorem C19_asInt_iff (a : PyArg) (n : Int) : asInt a = .ok n ↔ valueOf a = some (n, 1) := by
  rw [asInt_eq]
  rcases valueOf a with _ | ⟨n', d⟩
  · simp
  · by_cases hd : d = 1 <;> simp [hd]

theorem C19_repeat (a : PyArg) :
    (∀ n, asInt a = .ok n → n < 0 → repeatGuard a = .error .valueError) ∧
    (∀ n, asInt a = .ok n → 0 ≤ n → repeatGuard a = .ok n.toNat) ∧
    (∀ e, asInt a = .error e → repeatGuard a = .error .typeError) := by
  unfold repeatGuard
  refine ⟨fun n h hn => ?_, fun n h hn => ?_, fun e h => ?_⟩
  · rw [h]
    exact if_pos hn
  · rw [h]
    exact if_neg (Int.not_lt.mpr hn)
  · rw [h]

theorem C19_count (a : PyArg) :
    (∀ n, asInt a = .ok n → n < 0 → countGuard a = .error .valueError) ∧
    (∀ n, asInt a = .ok n → 0 ≤ n → countGuard a = .ok n.toNat) ∧
    (∀ e, asInt a = .error e → countGuard a = .error .typeError) := by
  rw [countGuard_eq_repeatGuard]
  exact C19_repeat a

theorem C19_parity (a : PyArg) :
    (∀ n, asInt a = .ok n → parityGuard a = .ok (n % 2 = 0)) ∧
    (∀ e, asInt a = .error e → ∃ e', parityGuard a = .error e') := by
  unfold parityGuard
  exact ⟨fun n h => by rw [h], fun e h => ⟨e, by rw [h]⟩⟩

theorem C19_position (n : Nat) (a : PyArg) :
    (∀ e, asIndex a = .error e → positionGuard n a = .error .typeError) ∧
    (∀ i, asIndex a = .ok i → (-(n : Int) ≤ i ∧ i < n) → ∃ j, positionGuard n a = .ok j ∧ j < n) ∧
    (∀ i, asIndex a = .ok i → ¬ (-(n : Int) ≤ i ∧ i < n) → positionGuard n a = .error .indexError) := by
  unfold positionGuard
  refine ⟨fun e h => ?_, fun i h hr => ?_, fun i h hr => ?_⟩ <;> rw [h]
  · rw [asIndex_error h]
  · have hj := (wrap_inRange n i).mpr hr
    exact ⟨_, if_pos hj, (Int.toNat_lt hj.1).mpr hj.2⟩
  · exact if_neg (mt (wrap_inRange n i).mp hr)

/-- floats and Fractions are never positions, whatever their value -/
theorem C19_position_float (n : Nat) (num : Int) (den : Nat) :
    positionGuard n (.float num den) = .error .typeError ∧ positionGuard n (.frac num den) = .error .typeError :=
  ⟨rfl, rfl⟩

theorem C19_within (lo hi : Int) : (lo > hi → withinGuard lo hi = .error .valueError) ∧ (lo ≤ hi → withinGuard lo hi = .ok ()) :=
  ⟨fun h => if_pos h, fun h => if_neg (Int.not_lt.mpr h)⟩

theorem C19_both_limits : bothLimitsGuard true true = .error .valueError ∧ bothLimitsGuard true false = .ok () ∧
    bothLimitsGuard false true = .ok () ∧ bothLimitsGuard false false = .ok () :=
  ⟨rfl, rfl, rfl, rfl⟩

theorem C19_roll_outcome (n : Nat) :
    rollOutcomeGuard true 0 = .error .valueError ∧ rollOutcomeGuard true (n + 1) = .ok () ∧ rollOutcomeGuard false n = .ok () := by
  simp [rollOutcomeGuard]

theorem C19_limit_int (v : Int) :
    (v = -1 → limitGuard (.int v) = .ok (some (.int maxsize))) ∧
    (v < -1 → limitGuard (.int v) = .error .valueError) ∧
    (0 ≤ v → limitGuard (.int v) = .ok (some (.int v.toNat))) := by
  obtain ⟨h₁, h₂, h₃⟩ := C07_normalize_int v
  simp only [limitGuard]
  exact ⟨fun h => by rw [h₁ h]; rfl, fun h => by rw [h₂ h]; rfl, fun h => by rw [h₃ h]; rfl⟩

/-- a Fraction or a float is a fractional limit: accepted exactly in the open interval (0, 1) —
so `2.0` or `Fraction(2)` are rejected although they "equal an integer" (the type selects the meaning) -/
theorem C19_limit_fractional (p : Int) (q : Nat) :
    ((p ≤ 0 ∨ p ≥ q) → limitGuard (.frac p q) = .error .valueError ∧ limitGuard (.float p q) = .error .valueError) ∧
    ((0 < p ∧ p < q) → limitGuard (.frac p q) = .ok (some (.frac p.toNat q)) ∧
        limitGuard (.float p q) = .ok (some (.frac p.toNat q))) := by
  obtain ⟨h₁, h₂⟩ := C07_normalize_frac p q
  simp only [limitGuard]
  exact ⟨fun h => by rw [h₁ h]; exact ⟨rfl, rfl⟩,
    fun h => by rw [h₂ h, Int.toNat_natCast]; exact ⟨rfl, rfl⟩⟩

theorem C19_limit_nonfinite :
    limitGuard .nan = .error .valueError ∧ limitGuard .posInf = .error .valueError ∧
    limitGuard .negInf = .error .valueError ∧ limitGuard .str = .error .typeError :=
  ⟨rfl, rfl, rfl, rfl⟩

end Dyce.Guard
