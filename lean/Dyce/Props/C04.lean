import Dyce.PoolCtorProofs
import Dyce.PoolHProofs
/-!
# C04 — Repetition, pooling and totals obey the counting laws

> n@h is the n-fold sum of independent copies of h with total h.total**n (0@h is the empty
> histogram, negative or non-integral n is rejected) and (m+n)@h == m@h + n@h for m, n >= 1.
> n@p holds n copies of every die of p, P(...) flattens nested pools, drops empty (zero-total)
> histograms and ignores argument order (so P(a,b) == P(b,a) and indexing/iteration follow one
> canonical order), P.total is the product of the dice totals (1 for the empty pool), and p.h()
> equals the sum of its dice so that (n@P(h)).h() == n@h.

| clause | theorem |
|---|---|
| `n@h` = n-fold sum, exact counts | `C04_matmul_count` |
| total `h.total**n` | `C04_matmul_total` |
| `0@h = {}` | `C04_matmul_zero` |
| negative `n` rejected | `C04_matmul_negative` (non-integral `n`: C19, `asInt`) |
| `(m+n)@h == m@h + n@h` | `C04_matmul_add` |
| `n@p` holds `n` copies of every die | `C04_pool_matmul` |
| `P(...)` flattens / drops empty / ignores order / canonical order | `C04_pool_flatten`, `C04_pool_drop_empty`, `C04_pool_perm`, `C04_pool_invariant` |
| a slice `p[i:j:k]` is a pool in the same canonical order (any step) | `C04_slice` |
| `P.total` | `C04_pool_total`, `C04_pool_total_empty` |
| `p.h()` = sum of dice; `(n@P(h)).h() == n@h` | `C03_noargs`, `C04_pool_h_matmul` |
-/
namespace Dyce
open List

section
variable {α : Type} [DecidableEq α]

theorem C04_matmul_count (le : α → α → Bool) (zero : α) (add : α → α → α) (n : Nat) (h : Hist α) (z : α) :
    countOf z (matmulH le zero add n h)
      = if n = 0 then 0 else wsum (tuples h n) (fun t => if t.foldl add zero = z then 1 else 0) :=
  wsum_matmulH le zero add n h _

theorem C04_matmul_total (le : α → α → Bool) (zero : α) (add : α → α → α) (n : Nat) (hn : 0 < n)
    (h : Hist α) : total (matmulH le zero add n h) = total h ^ n := by
  rw [total_eq_wsum, wsum_matmulH, if_neg (Nat.ne_of_gt hn), wsum_tuples_one]

theorem C04_matmul_zero (le : α → α → Bool) (zero : α) (add : α → α → α) (h : Hist α) :
    matmulH le zero add 0 h = [] := rfl

/-- `H.__matmul__` after `as_int`: a negative repetition count is a `ValueError` -/
def hMatmul (le : α → α → Bool) (zero : α) (add : α → α → α) (n : Int) (h : Hist α) : Except PyErr (Hist α) :=
  if n < 0 then .error .valueError else .ok (matmulH le zero add n.toNat h)

theorem C04_matmul_negative (le : α → α → Bool) (zero : α) (add : α → α → α) (n : Int) (h : Hist α) :
    (n < 0 → hMatmul le zero add n h = .error .valueError) ∧
    (0 ≤ n → hMatmul le zero add n h = .ok (matmulH le zero add n.toNat h)) := by
  unfold hMatmul
  exact ⟨fun hn => if_pos hn, fun hn => if_neg (Int.not_lt.mpr hn)⟩

variable {le : α → α → Bool}

theorem C04_pool_perm (hle : TotalOrderB le) {args₁ args₂ : List (PArg α)} (hp : args₁ ~ args₂) :
    mkPool le args₁ = mkPool le args₂ :=
  canonDice_congr hle ((hp.flatMap_right _).filter _)

theorem C04_pool_flatten (hle : TotalOrderB le) (a c b : List (PArg α)) :
    mkPool le (a ++ [PArg.pool (mkPool le b)] ++ c) = mkPool le (a ++ b ++ c) := by
  refine canonDice_congr hle ?_
  simp only [List.flatMap_append, List.flatMap_singleton, PArg.dice, List.filter_append, mkPool,
    filter_canonDice]
  exact ((canonDice_perm_filter _).append_left _).append_right _

theorem C04_pool_drop_empty (hle : TotalOrderB le) (a c : List (PArg α)) (h : Hist α) (h0 : total h = 0) :
    mkPool le (a ++ [PArg.hist h] ++ c) = mkPool le (a ++ c) := by
  simp [mkPool, canonDice, PArg.dice, h0]

theorem C04_pool_invariant (hle : TotalOrderB le) (args : List (PArg α)) :
    (∀ h ∈ mkPool le args, 0 < total h) ∧ (mkPool le args).Pairwise (fun a b => lexLe le a b = true) :=
  ⟨fun _ hh => Nat.pos_of_ne_zero (canonDice_pos hh), sortBy_pairwise (lexLe_order hle) _⟩

/-- a slice of a pool is a pool again: its dice are in canonical order whatever the order of the selected
positions (negative steps included), all have a positive total, and they are exactly the selected dice -/
theorem C04_slice (hle : TotalOrderB le) (args : List (PArg α)) (idxs : List Nat) :
    (poolSlice le (mkPool le args) idxs).Pairwise (fun a b => lexLe le a b = true) ∧
    (∀ h ∈ poolSlice le (mkPool le args) idxs, 0 < total h) ∧
    poolSlice le (mkPool le args) idxs ~ idxs.filterMap (fun j => (mkPool le args)[j]?) := by
  refine ⟨sortBy_pairwise (lexLe_order hle) _, fun _ hh => Nat.pos_of_ne_zero (canonDice_pos hh),
    canonDice_perm_self fun h hh => ?_⟩
  obtain ⟨j, _, hj⟩ := List.mem_filterMap.mp hh
  exact canonDice_pos (List.mem_of_getElem? hj)

theorem C04_pool_total (dice : List (Hist α)) :
    poolTotal dice = wsum (poolTuples dice) (fun _ => 1) := (wsum_poolTuples_one dice).symm

theorem C04_pool_total_empty : poolTotal ([] : List (Hist α)) = 1 := rfl

theorem C04_pool_matmul (n : Nat) (dice : List (Hist α)) (hpos : ∀ h ∈ dice, total h ≠ 0) (d : Hist α) :
    (matmulP le n dice).count d = n * dice.count d := by
  have hall : ∀ h ∈ (List.replicate n dice).flatten, total h ≠ 0 := by
    simp only [List.mem_flatten, List.mem_replicate]
    rintro h ⟨_, ⟨_, rfl⟩, hl⟩
    exact hpos h hl
  rw [matmulP, (canonDice_perm_self hall).count_eq, List.count_flatten, List.map_replicate,
    List.sum_replicate_nat]

end

section
variable {α : Type} [DecidableEq α] [AddCommMonoid α]

theorem C04_matmul_add (le : α → α → Bool) (m n : Nat) (hm : 0 < m) (hn : 0 < n) (h : Hist α) (z : α) :
    countOf z (matmulH le 0 (· + ·) (m + n) h)
      = countOf z (mapH le (· + ·) (matmulH le 0 (· + ·) m h) (matmulH le 0 (· + ·) n h)) := by
  simp only [matmulH, List.replicate_add]
  exact countOf_sumH_append le (fun h0 => Nat.ne_of_gt hm ((List.replicate_eq_nil_iff _).mp h0))
    (fun h0 => Nat.ne_of_gt hn ((List.replicate_eq_nil_iff _).mp h0)) z

theorem C04_pool_h_matmul (le : α → α → Bool) (n : Nat) (h : Hist α) (h0 : total h ≠ 0) :
    sumH le 0 (· + ·) (matmulP le n (mkPool le [PArg.hist h])) = matmulH le 0 (· + ·) n h := by
  have h1 : mkPool le [PArg.hist h] = [h] := canonDice_replicate 1 h h0
  rw [h1, matmulP, List.flatten_replicate_singleton, canonDice_replicate n h h0]
  rfl

end

/-! non-vacuity: hypotheses are satisfiable by concrete data -/
example : ∀ h ∈ ([[(1, 1), (2, 0)], [(0, 2)]] : List (Hist Int)), total h ≠ 0 := by decide
example : ([PArg.hist [(1, 1)], PArg.pool [[(0, 2)]]] : List (PArg Int)) ~ [PArg.pool [[(0, 2)]], PArg.hist [(1, 1)]] :=
  List.Perm.swap _ _ _

end Dyce
