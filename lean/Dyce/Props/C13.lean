import Dyce.Memo
import Dyce.Model
/-!
# C13 — Results never depend on what was computed earlier (cache transparency)

> The result of any histogram or pool query (selection sums, roll enumeration, order statistics,
> appearances, equality, hashing, reduction) is determined by its receiver and arguments alone. In
> any sequence of queries over any mix of objects - including distinct objects that compare equal
> (scaled counts, zero-count padding, equal-valued outcomes of a different numeric type) - each
> answer is identical (same outcomes, of the same types, with the same positive counts) to the answer
> the same query gives in a fresh interpreter.

dyce memoizes (a) the partial-selection distributions in a process-wide `functools.cache`, and (b)
per instance: order-statistic functions by `n`, `lowest_terms`, `hash`, `total`.  `memoRun` is any such
memo: a table from keys to stored values, hit → stored value, miss → compute and store.

| clause | theorem |
|---|---|
| any memo whose key determines the observable of the computed value answers EVERY history of queries exactly like cold computations | `C13_memo_transparent` |
| a key that is the whole argument (what the repaired selection memo uses: the histogram's exact items with the outcomes' types, `n`, `k`, direction; and the per-instance caches, whose receiver is fixed) is always sound | `C13_exact_key_sound`, `C13_selection_memo_history` |
| the pinned key (histogram up to `==`: scale-, padding- and TYPE-blind) is not: same key, different observable | `C13_pinned_key_unsound` |
| the stateless model functions (`rollsWithCounts`, `poolH`, `orderStat`, `appearances`, `eqH`, `lowestTerms`) ARE the cold answers | C02, C03, C05, C09 theorems; correspondence warm vs cold vs model |
-/
namespace Dyce

variable {A κ ν O : Type} [DecidableEq κ]

theorem C13_memo_transparent (key : A → κ) (f : A → ν) (Obs : ν → O)
    (hkey : ∀ a b, key a = key b → Obs (f a) = Obs (f b)) (as : List A) :
    (memoRun key f [] as).2.map Obs = as.map (fun a => Obs (f a)) :=
  memo_transparent key f Obs hkey [] (memoInv_nil key f) as

/-- keying on everything the function reads is sound for every observation -/
theorem C13_exact_key_sound [DecidableEq A] (f : A → ν) (Obs : ν → O) (as : List A) :
    (memoRun (fun a => a) f [] as).2.map Obs = as.map (fun a => Obs (f a)) :=
  C13_memo_transparent (fun a => a) f Obs (fun a b h => by rw [h]) as

/-- the argument of the partial-selection memo after the repair: exact items (outcomes carry their
type tag), number of dice, number selected, direction -/
abbrev SelArg (α : Type) := Hist α × Nat × Nat × Bool

/-- the memoized computation: the probability-domain Karonen recursion from either end -/
def selMemoFn {α : Type} (a : SelArg α) : List (List α × Nat × Nat) :=
  if a.2.2.2 then selCoreR a.1.reverse a.2.1 a.2.2.1 else selCore a.1 a.2.1 a.2.2.1

/-- **any history of pool queries**: with the exact key every memoized answer, in every order of
queries over any mix of histograms, is the cold answer -/
theorem C13_selection_memo_history {α : Type} [DecidableEq α] (as : List (SelArg α)) :
    (memoRun (fun a => a) selMemoFn [] as).2 = as.map selMemoFn :=
  (List.map_id' _).symm.trans (C13_exact_key_sound (A := SelArg α) selMemoFn (fun v => v) as)

/-- numeric type tags of outcomes -/
inductive NumTag where | int | float | fraction | bool
  deriving DecidableEq, Repr

/-- the pinned key: outcomes compared by value only (`1 == 1.0 == True`) -/
def pinnedKey (h : Hist (Int × NumTag)) : Hist Int := h.map fun oc => (oc.1.1, oc.2)

/-- **the pinned memo key was unsound** (defect F7): two histograms with the same key whose rolls
carry outcomes of different types -/
theorem C13_pinned_key_unsound :
    ∃ a b : Hist (Int × NumTag), pinnedKey a = pinnedKey b ∧
      (selCore a 1 1).map (·.1) ≠ (selCore b 1 1).map (·.1) := by
  refine ⟨[((1, .int), 1), ((2, .int), 1)], [((1, .float), 1), ((2, .float), 1)], by decide, by decide⟩

end Dyce
