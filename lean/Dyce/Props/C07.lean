import Dyce.EvalRefine
import Dyce.EvalConcrete
import Dyce.EvalFuel
/-!
# C07 — Recursion limits cut expansion exactly where documented

> A recursive @expandable evaluation with whole-number limit L substitutes the sentinel exactly at
> nesting depth L (0 gives the sentinel alone, -1 is unbounded, the default is 1), and with a
> fractional limit e in (0,1) substitutes it exactly on those branches whose probability relative to
> the whole evaluation (the product, along the path and over all sources, of count/total) is <= e.
> Nested calls inherit the limit of the enclosing evaluation, other limits (negative other than -1,
> fractions <= 0 or >= 1) raise ValueError, and the value returned is the exact mixture of the
> expanded and the sentinel branches.

The implementation keeps depth, precision and limit in a context variable that it sets around every
callback invocation and resets in a `finally`.  `specEval` is the *stateless* reading of the
documentation: depth, precision and inherited limit are explicit arguments.  Callbacks are arbitrary
interaction trees (`Prog`): return, raise, or evaluate any decorated function on any sources with any
limit and continue with any function of its result.

| clause | theorem |
|---|---|
| the ContextVar implementation computes exactly the stateless rule, for every callback, fuel, sources, limit, starting cell | `C07_refines_spec` |
| the rule itself: sentinel iff cut, otherwise aggregate of all branches evaluated at depth+1 and precision·count/Πtotals under the same limit | `C07_cut_rule` |
| whole-number limit: cut exactly when depth ≥ L | `C07_cut_int` |
| fractional limit: cut exactly when precision ≤ e | `C07_cut_frac` |
| limit 0 gives the sentinel alone (lowest terms) | `C07_limit_zero` |
| default limit 1; nested calls inherit | `C07_default_limit`, `C07_inherit` |
| -1 is unbounded (`sys.maxsize`), other negatives / fractions outside (0,1) are ValueError | `C07_normalize_int`, `C07_normalize_frac` |
| returned value = mixture of expanded and sentinel branches | `C07_cut_rule` + C06 (`agg`) |
| whole-number limits everywhere (top level, inherited, and every nested call any callback can make) `≤ N`: the result does not depend on the fuel once it exceeds `N` — the stand-in for the interpreter stack is not observable | `C07_fuel_independent`, `C07_fuel_independent_impl` |

Fuel stands for the interpreter stack: `specEval 0` is `RecursionError`, which the caller converts
into its sentinel (as documented).  For whole-number limits the two theorems above remove it from the
statement; for fractional limits the depth reached depends on the sources' weights and fuel remains.
-/
namespace Dyce

variable {α ρ : Type}

theorem C07_refines_spec (env : Nat → Fn α ρ) (agg : List (Ret α × Nat) → Hist α)
    (lowest : Hist α → Hist α) (fuel fn : Nat) (srcs : List (Src ρ)) (lim : Option Limit) (c : Cell) :
    evalFn env agg lowest fuel fn srcs lim c
      = (specEval env agg lowest fuel fn srcs lim (c.getD ⟨none, 0, 1, 1⟩), c) :=
  evalFn_refines env agg lowest fuel fn srcs lim c

theorem C07_cut_rule (env : Nat → Fn α ρ) (agg : List (Ret α × Nat) → Hist α) (lowest : Hist α → Hist α)
    (fuel fn : Nat) (srcs : List (Src ρ)) (lim : Option Limit) (cur : Ctx) :
    specEval env agg lowest (fuel + 1) fn srcs lim cur =
      (let newLim : Limit := (lim.orElse fun _ => cur.limit).getD (.int 1)
       let finish (h : Hist α) : Hist α := if cur.depth = 0 then lowest h else h
       if cutNow newLim cur then .ok (finish (env fn).sentinel)
       else
         match (branches srcs).foldl
            (specBranch (specEval env agg lowest fuel) (env fn)
              (fun cc => ⟨some newLim, cur.depth + 1, cur.precNum * cc, cur.precDen * srcTotal srcs⟩))
            (.ok []) with
         | .ok rs => .ok (finish (agg rs))
         | .error e => .error e) := rfl

theorem C07_cut_int (n : Nat) (c : Ctx) : cutNow (.int n) c = true ↔ c.depth ≥ n :=
  cutNow_int

/-- precision `precNum/precDen ≤ num/den`, cross-multiplied (all denominators positive) -/
theorem C07_cut_frac (num den : Nat) (c : Ctx) :
    cutNow (.frac num den) c = true ↔ c.precNum * den ≤ num * c.precDen :=
  decide_eq_true_iff

theorem C07_limit_zero (env : Nat → Fn α ρ) (agg : List (Ret α × Nat) → Hist α) (lowest : Hist α → Hist α)
    (fuel fn : Nat) (srcs : List (Src ρ)) :
    evalFn env agg lowest (fuel + 1) fn srcs (some (.int 0)) none = (.ok (lowest (env fn).sentinel), none) := by
  rw [evalFn_refines, specEval_of_cut (newLim := .int 0) rfl rfl]
  rfl

/-- without any limit anywhere the limit is 1: the top level expands, every nested evaluation
(depth ≥ 1) returns its sentinel -/
theorem C07_default_limit (env : Nat → Fn α ρ) (agg : List (Ret α × Nat) → Hist α) (lowest : Hist α → Hist α)
    (fuel fn : Nat) (srcs : List (Src ρ)) (cur : Ctx) (hd : 1 ≤ cur.depth) (hl : cur.limit = some (.int 1)) :
    specEval env agg lowest (fuel + 1) fn srcs none cur = .ok ((env fn).sentinel) := by
  rw [specEval_of_cut (newLim := .int 1) (by rw [hl]; rfl) (cutNow_int.mpr hd),
    if_neg (Nat.ne_of_gt hd)]
  rfl

/-- a nested evaluation without its own limit uses the enclosing evaluation's limit -/
theorem C07_inherit (lim : Limit) (cur : Ctx) (hl : cur.limit = some lim) :
    ((none : Option Limit).orElse fun _ => cur.limit).getD (.int 1) = lim := by
  simp [hl]

theorem C07_normalize_int (n : Int) :
    (n = -1 → normalizeLimit (.int n) = .ok (some (.int maxsize))) ∧
    (n < -1 → normalizeLimit (.int n) = .error .valueError) ∧
    (0 ≤ n → normalizeLimit (.int n) = .ok (some (.int n.toNat))) := by
  simp only [normalizeLimit]
  refine ⟨fun h => if_pos h, fun h => ?_, fun h => ?_⟩
  · rw [if_neg (Int.ne_of_lt h), if_pos (Int.lt_trans h (by decide))]
  · rw [if_neg (Int.ne_of_gt (Int.lt_of_lt_of_le (by decide) h)), if_neg (Int.not_lt.mpr h)]

theorem C07_normalize_frac (p q : Int) :
    ((p ≤ 0 ∨ p ≥ q) → normalizeLimit (.frac p q) = .error .valueError) ∧
    ((0 < p ∧ p < q) → normalizeLimit (.frac p q) = .ok (some (.frac p.toNat q.toNat))) := by
  simp only [normalizeLimit]
  exact ⟨fun h => if_pos h, fun h => if_neg (not_or.mpr ⟨Int.not_le.mpr h.1, Int.not_le.mpr h.2⟩)⟩

/-- with whole-number limits `≤ N` everywhere, any fuel `> N` gives the same answer (stateless rule) -/
theorem C07_fuel_independent (env : Nat → Fn α ρ) (agg : List (Ret α × Nat) → Hist α)
    (lowest : Hist α → Hist α) (N : Nat) (hN : 1 ≤ N)
    (henv : ∀ fn args, ((env fn).body args).LimBounded N)
    (fuel₁ fuel₂ fn : Nat) (srcs : List (Src ρ)) (lim : Option Limit) (hlim : LimOK N lim)
    (h₁ : N < fuel₁) (h₂ : N < fuel₂) :
    specEval env agg lowest fuel₁ fn srcs lim ⟨none, 0, 1, 1⟩
      = specEval env agg lowest fuel₂ fn srcs lim ⟨none, 0, 1, 1⟩ :=
  specEval_fuel_indep env agg lowest N hN henv fuel₁ fuel₂ fn srcs lim _ hlim
    LimOK_none ⟨Nat.zero_lt_of_lt h₁, h₁⟩ ⟨Nat.zero_lt_of_lt h₂, h₂⟩

/-- the same for the ContextVar implementation model started from a fresh interpreter -/
theorem C07_fuel_independent_impl (env : Nat → Fn α ρ) (agg : List (Ret α × Nat) → Hist α)
    (lowest : Hist α → Hist α) (N : Nat) (hN : 1 ≤ N)
    (henv : ∀ fn args, ((env fn).body args).LimBounded N)
    (fuel₁ fuel₂ fn : Nat) (srcs : List (Src ρ)) (lim : Option Limit) (hlim : LimOK N lim)
    (h₁ : N < fuel₁) (h₂ : N < fuel₂) :
    evalFn env agg lowest fuel₁ fn srcs lim none = evalFn env agg lowest fuel₂ fn srcs lim none := by
  rw [evalFn_refines, evalFn_refines, Option.getD_none,
    C07_fuel_independent env agg lowest N hN henv fuel₁ fuel₂ fn srcs lim hlim h₁ h₂]

/-- non-vacuity: a callback that re-evaluates itself on its own sources with limit 3 is bounded by 3 -/
example (srcs : List (Src ρ)) :
    (Prog.call 0 srcs (some (.int 3)) fun h => (.ret (.hist h) : Prog α ρ)).LimBounded 3 :=
  .call _ _ _ _ (LimOK_some_int (Nat.le_refl 3)) fun _ => .ret _

/-! the cut test on concrete contexts: depth 2 under the whole-number limit 2; precision 1/16 and 3/16
under the fractional limit 1/16 -/
example : cutNow (.int 2) ⟨some (.int 2), 2, 1, 36⟩ = true := by decide
example : cutNow (.frac 1 16) ⟨some (.frac 1 16), 1, 1, 16⟩ = true := by decide
example : cutNow (.frac 1 16) ⟨some (.frac 1 16), 1, 3, 16⟩ = false := by decide

end Dyce
