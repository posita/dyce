import Dyce.EvalRefine
/-!
# C14 — Evaluation limits and context never leak across calls, even after errors

> Whatever earlier @expandable/foreach/explode/substitute evaluations did - completed, were nested
> inside one another, or were aborted by an exception raised from a callback at any invocation
> point - that exception propagates to the caller unchanged (only RecursionError is converted into
> the sentinel, as documented), and every later top-level evaluation behaves exactly as in a fresh
> interpreter: it starts at depth 0 with full precision, applies its own or the default limit, and
> returns a lowest-terms histogram.

The monad of the model is `σ → Except Err β × σ`: the state (the context variable) *survives* an
exception, as a `ContextVar` does, so restoration after an error is a theorem about the explicit
`finally`-combinator `guarded`, not an artefact of the monad.

| clause | theorem |
|---|---|
| after any evaluation — returned, cut, or aborted by an exception at any callback invocation at any depth — the context variable holds what it held before | `C14_context_restored` |
| any history of top-level evaluations: every one yields its fresh-interpreter answer, and the cell ends unset | `C14_history_fresh` |
| a callback's exception other than RecursionError propagates unchanged | `C14_error_propagates` |
| RecursionError becomes the sentinel of the function whose callback raised it | `C14_recursion_error_to_sentinel` |
| fresh interpreter = depth 0, precision 1, own or default limit, lowest terms | `C14_fresh_context` (+ `C07_cut_rule`) |
-/
namespace Dyce

variable {α ρ : Type}

theorem C14_context_restored (env : Nat → Fn α ρ) (agg : List (Ret α × Nat) → Hist α)
    (lowest : Hist α → Hist α) (fuel fn : Nat) (srcs : List (Src ρ)) (lim : Option Limit) (c : Cell) :
    (evalFn env agg lowest fuel fn srcs lim c).2 = c := by
  rw [evalFn_refines]

/-- run a history of computations in one interpreter, threading the context variable -/
def runHistory {κ β : Type} (ev : κ → M Cell β) : List κ → Cell → List (Except Err β) × Cell
  | [], c => ([], c)
  | k :: ks, c =>
    let (r, c') := ev k c
    let (rs, c'') := runHistory ev ks c'
    (r :: rs, c'')

theorem runHistory_cons {κ β : Type} (ev : κ → M Cell β) (k : κ) (ks : List κ) (c : Cell) :
    runHistory ev (k :: ks) c
      = ((ev k c).1 :: (runHistory ev ks (ev k c).2).1, (runHistory ev ks (ev k c).2).2) := rfl

/-- **any history**: if every evaluation restores the cell, then in every history each evaluation
returns exactly what it returns when run alone from the initial cell, and the cell ends as it
started -/
theorem history_fresh {κ β : Type} (ev : κ → M Cell β) (hev : ∀ k c, (ev k c).2 = c) (ks : List κ) (c : Cell) :
    runHistory ev ks c = (ks.map fun k => (ev k c).1, c) := by
  induction ks with
  | nil => rfl
  | cons k ks ih =>
    rw [runHistory_cons, hev k c, ih]
    rfl

theorem C14_history_fresh (env : Nat → Fn α ρ) (agg : List (Ret α × Nat) → Hist α) (lowest : Hist α → Hist α)
    (fuel : Nat) (calls : List (Nat × List (Src ρ) × Option Limit)) :
    runHistory (fun call => evalFn env agg lowest fuel call.1 call.2.1 call.2.2) calls none
      = (calls.map fun call => (evalFn env agg lowest fuel call.1 call.2.1 call.2.2 none).1, none) :=
  history_fresh _ (fun k c => C14_context_restored env agg lowest fuel k.1 k.2.1 k.2.2 c) calls none

/-- the context a fresh interpreter starts from: no inherited limit, depth 0, precision 1/1 -/
theorem C14_fresh_context : (none : Cell).getD ⟨none, 0, 1, 1⟩ = ⟨none, 0, 1, 1⟩ := rfl

/-- **errors propagate unchanged**: if the callback raises `e ≠ RecursionError` on some branch (all
earlier branches having completed), the evaluation raises exactly `e` -/
theorem C14_error_propagates (env : Nat → Fn α ρ) (agg : List (Ret α × Nat) → Hist α) (lowest : Hist α → Hist α)
    (fuel fn : Nat) (srcs : List (Src ρ)) (lim : Option Limit) (cur : Ctx)
    (pre post : List (List ρ × Nat)) (bw : List ρ × Nat) (sofar : List (Ret α × Nat)) (e : Err)
    (hne : e ≠ .recursionError)
    (hcut : cutNow ((lim.orElse fun _ => cur.limit).getD (.int 1)) cur = false)
    (hbr : branches srcs = pre ++ bw :: post)
    (hpre : pre.foldl (specBranch (specEval env agg lowest fuel) (env fn)
        (fun cc => ⟨some ((lim.orElse fun _ => cur.limit).getD (.int 1)), cur.depth + 1, cur.precNum * cc,
          cur.precDen * srcTotal srcs⟩)) (.ok []) = .ok sofar)
    (herr : specProg (specEval env agg lowest fuel)
        ⟨some ((lim.orElse fun _ => cur.limit).getD (.int 1)), cur.depth + 1, cur.precNum * bw.2,
          cur.precDen * srcTotal srcs⟩ ((env fn).body bw.1) = .error e) :
    specEval env agg lowest (fuel + 1) fn srcs lim cur = .error e := by
  rw [specEval_succ rfl, if_neg (ne_true_of_eq_false hcut), hbr, List.foldl_append, List.foldl_cons, hpre,
    specBranch_error hne herr, foldl_specBranch_error]

/-- **RecursionError → sentinel**: the branch contributes the sentinel of the function whose
callback raised it, and the evaluation goes on -/
theorem C14_recursion_error_to_sentinel (sv : Nat → List (Src ρ) → Option Limit → Ctx → Except Err (Hist α))
    (f : Fn α ρ) (mk : Nat → Ctx) (sofar : List (Ret α × Nat)) (bw : List ρ × Nat)
    (h : specProg sv (mk bw.2) (f.body bw.1) = .error .recursionError) :
    specBranch sv f mk (.ok sofar) bw = .ok (sofar ++ [(.hist f.sentinel, bw.2)]) :=
  specBranch_recursionError h

end Dyce
