import Dyce.RollerOwn
import Dyce.RollerAccount
import Dyce.RollerShape
import Mathlib.Data.List.Forall2
/-!
# C12 — Rolls are complete, consistent records of how results were produced

> In every roll produced by any roller tree, roll.r is the producing roller, its source rolls were
> produced in order by that roller's sources (n times over for n@r, once per expansion for
> substitution), each derived outcome's value equals the node's operation applied to the values
> recorded in its source outcomes, and outcomes()/total() report exactly the non-dropped values.
> Every live (non-tombstone) outcome of every source roll is accounted for in the parent roll -
> kept, used as a source of a derived outcome, or represented by a tombstone (value None) whose
> source it is - and every outcome reachable through `sources` is associated with a roll, so its
> source_roll, r and annotation are available.

The model `rollW` produces, for a roller tree, the weighted list of ALL roll records (one per random
choice path) — outcome objects with value / sources / "associated with a roll" flag, and source
rolls — through the same steps as each `roll()` method.  `mkRollDeep` is the repaired
`Roll.__init__` (fix commit 7c6d2a7), `mkRollTop` the pinned one.

| clause | theorem |
|---|---|
| every outcome reachable through `sources`, in the roll and all its source rolls, is associated with a roll — every tree, every path | `C12_all_reachable_owned` |
| … which the pinned `Roll.__init__` violated (`2@R.from_value(H(2)) + 1`) | `C12_pinned_counterexample` |
| … and which associating only the outcomes and their direct sources violates too (a three-step custom operator) | `C12_one_hop_counterexample` |
| `outcomes()` / `total()` are exactly the values of the non-tombstone outcomes | `C12_outcomes_are_live_values` |
| derived values = the node's operation on the recorded source values (whole tuple, path by path) | `C12_values_follow_denotation` |
| number of source rolls: one per source, `n` for `n@r`, 2 / 1 for binary / unary nodes | `C12_source_rolls_count` |
| every live outcome of every source roll is kept, a source (possibly through an implicit sum) of a derived outcome, or the source of a tombstone — every node kind, every path | `C12_live_sources_accounted`, `C12_live_sources_accounted_subst` |
| source rolls were produced, in order, by the node's sources: one per source for pool / filter / selection, `n` rolls of the source for `n@r`, left then right for binary nodes, the source's roll followed by one (re-wrapped) roll of the expansion roller per substitution — every tree, every path; "produced by" = is one of the rolls of that source, so the statement applies again to each source roll | `C12_source_rolls_in_order` |
| `roll.r` (object identity) | model by construction (the record of a node is built by that node's clause) + identity checks on the real record in the correspondence |
-/
namespace Dyce

theorem C12_all_reachable_owned (r : RTree) :
    AllW (fun rec => rec.wellOwned = true) (rollW mkRollDeep r) := rollW_wellOwned r

theorem C12_pinned_counterexample :
    ∃ e ∈ rollW mkRollTop
        (.bin (· + ·) (.rep 2 (.value (.hist [(1, 1), (2, 1)]))) (.value (.scalar 1))),
      e.1.wellOwned = false := by
  decide +kernel

/-- a `Roll.__init__` that associates the outcomes and their *direct* sources only -/
def RO.ownShallow : RO → RO
  | .mk v srcs _ => .mk v (srcs.map RO.own) true
def mkRollOneHop (outcomes : List RO) (sourceRolls : List RollRec) : RollRec :=
  .mk (outcomes.map RO.ownShallow) sourceRolls

/-- associating only the outcomes and their direct sources is not enough either: a three-step custom
operator leaves an intermediate outcome without a roll -/
theorem C12_one_hop_counterexample :
    ∃ e ∈ rollW mkRollOneHop
        (.unChain [(· - 4), (fun a => (a.natAbs : Int)), (· * 2)] (.value (.hist [(1, 1), (2, 1)]))),
      e.1.wellOwned = false := by
  decide +kernel

theorem C12_outcomes_are_live_values (outs : List RO) (srs : List RollRec) :
    (mkRollDeep outs srs).values = outs.filterMap RO.value := keepsValues_deep outs srs

theorem C12_values_follow_denotation (r : RTree) :
    mapW RollRec.values (rollW mkRollDeep r) = den r := values_rollW mkRollDeep keepsValues_deep r

/-- `hns` is not used: the re-rolling substitution satisfies the clause as well (next theorem) -/
theorem C12_live_sources_accounted (t : RTree) (hns : ∀ p e rep md src, t ≠ .subst p e rep md src)
    (hsel : SelResolves t) : AllW Accounted (rollW mkRollDeep t) := rollW_accounted t hsel

theorem C12_live_sources_accounted_subst (p : Int → Bool) (e : RTree) (replace : Bool) (md : Nat) (src : RTree) :
    AllW Accounted (rollW mkRollDeep (.subst p e replace md src)) := rollW_accounted _ trivial

/-- the recorded source rolls are, in order, rolls of the node's sources (see `SrcShape`) -/
theorem C12_source_rolls_in_order (t : RTree) :
    AllW (fun rec => SrcShape t rec.sourceRolls) (rollW mkRollDeep t) := rollW_srcShape t

/-- non-vacuity: `2@d2` records two source rolls, each a roll of the d2 -/
example : SrcShape (.rep 2 (.value (.hist [(1, 1), (2, 1)])))
    [mkRollDeep [.mk (some 1) [] false] [], mkRollDeep [.mk (some 2) [] false] []] := by
  refine ⟨rfl, ?_⟩
  intro r hr
  -- the d2 enumerates as `[(1, 1), (2, 1)]`, so the two records are its first and second roll
  rcases List.mem_pair.mp hr with rfl | rfl
  · exact ⟨1, .head _⟩
  · exact ⟨1, .tail _ (.head _)⟩

/-- how many source rolls a node records (substitution: one per expansion, not fixed) -/
def expectedSrcRolls : RTree → Option Nat
  | .value _ => some 0
  | .pool srcs => some srcs.length
  | .rep n _ => some n
  | .bin _ _ _ => some 2
  | .un _ _ => some 1
  | .unChain _ _ => some 1
  | .filt _ srcs => some srcs.length
  | .sel _ srcs => some srcs.length
  | .substMap _ _ _ _ => some 1
  | .subst _ _ _ _ _ => none

/-- the number of source rolls can be read off their shape -/
theorem SrcShape.length_eq {t : RTree} {srs : List RollRec} {n : Nat} (h : SrcShape t srs)
    (hn : expectedSrcRolls t = some n) : srs.length = n := by
  cases t with
  | subst p e rep md src => cases hn
  | value l =>
    obtain rfl := Option.some.inj hn
    rw [show srs = [] from h]
    rfl
  | pool srcs =>
    obtain rfl := Option.some.inj hn
    exact (List.Forall₂.length_eq h).symm
  | filt p srcs =>
    obtain rfl := Option.some.inj hn
    exact (List.Forall₂.length_eq h).symm
  | sel w srcs =>
    obtain rfl := Option.some.inj hn
    exact (List.Forall₂.length_eq h).symm
  | rep m s =>
    obtain rfl := Option.some.inj hn
    exact h.1
  | bin op l r =>
    obtain rfl := Option.some.inj hn
    obtain ⟨a, b, rfl, _⟩ := h
    rfl
  | un op s =>
    obtain rfl := Option.some.inj hn
    obtain ⟨a, rfl, _⟩ := h
    rfl
  | unChain ops s =>
    obtain rfl := Option.some.inj hn
    obtain ⟨a, rfl, _⟩ := h
    rfl
  | substMap p f md s =>
    obtain rfl := Option.some.inj hn
    obtain ⟨a, rfl, _⟩ := h
    rfl

theorem C12_source_rolls_count (t : RTree) (n : Nat) (h : expectedSrcRolls t = some n) :
    AllW (fun rec => rec.sourceRolls.length = n) (rollW mkRollDeep t) :=
  AllW_mono (rollW_srcShape t) fun _ hs => hs.length_eq h

end Dyce
