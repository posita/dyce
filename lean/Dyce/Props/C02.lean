import Dyce.RollsWithCounts
/-!
# C02 — Pool roll enumeration equals brute-force enumeration for every selection

> For any pool and any selection of positions (integers, negative indexes, slices with any step,
> repeats, in any order), the (roll, count) pairs yielded by P.rolls_with_counts, aggregated per
> roll, are exactly those obtained by enumerating the Cartesian product of the dice, sorting each
> result ascending and picking the selected positions in the order given. Counts are exact integers
> that sum to the pool's total for every non-empty selection, an empty selection yields nothing,
> and an out-of-range index raises IndexError. Which enumeration strategy the library picks never
> changes the answer.

| clause | theorem |
|---|---|
| no arguments = whole sorted rolls | `C02_noargs` |
| any selection: IndexError exactly when indexing `range(n)` raises; otherwise brute force | `C02_selection` |
| counts sum to the product of the dice totals | `C02_counts_sum_noargs`, `C02_counts_sum_selection` |
| empty selection / empty pool yield nothing | inside `C02_selection` (`if idxs = [] ∨ dice = [] then 0`) |
| strategy never matters | the two theorems are stated about `rollsWithCounts`, whose dispatcher picks the strategy |

`DiceOK le dice` is the invariant `P.__init__` establishes: every die has strictly ascending
outcomes and a positive total.  `le` is any Boolean total order on the outcome type.
-/
namespace Dyce

variable {α : Type} [DecidableEq α] {le : α → α → Bool}

/-- `p.rolls_with_counts()` -/
theorem C02_noargs (hle : TotalOrderB le) (dice : List (Hist α)) (hd : DiceOK le dice) :
    ∃ L, rollsWithCounts le dice [] = .ok L ∧
      ∀ r, countOf r L =
        if dice = [] then 0 else specRWC le dice (List.range dice.length) r := by
  obtain ⟨L, hL, hF⟩ := rollsWithCounts_nil_wsum hle dice hd
  refine ⟨L, hL, fun r => (hF _).trans ?_⟩
  by_cases hne : dice = []
  · rw [if_pos hne, if_pos hne]
  · rw [if_neg hne, if_neg hne]
    apply wsum_congr
    intro tw htw
    rw [takeIdxs_range _ dice.length (by simp [mem_poolTuples_length htw])]

/-- `p.rolls_with_counts(*which)` for a non-empty `which` -/
theorem C02_selection (hle : TotalOrderB le) (dice : List (Hist α)) (hd : DiceOK le dice)
    (s : Sel) (ss : List Sel) :
    (∀ e, resolve dice.length (s :: ss) = .error e →
        rollsWithCounts le dice (s :: ss) = .error e) ∧
    (∀ idxs, resolve dice.length (s :: ss) = .ok idxs →
      ∃ L, rollsWithCounts le dice (s :: ss) = .ok L ∧
        ∀ r, countOf r L =
          if idxs = [] ∨ dice = [] then 0 else specRWC le dice idxs r) := by
  refine ⟨fun e he => ?_, fun idxs hres => ?_⟩
  · exact rollsWithCounts_cons_error le dice he
  · obtain ⟨L, hL, hF⟩ := rollsWithCounts_cons_wsum hle dice hd s ss idxs hres
    exact ⟨L, hL, fun r => hF _⟩

/-- counts of `p.rolls_with_counts()` sum to `p.total` (non-empty pool) -/
theorem C02_counts_sum_noargs (hle : TotalOrderB le) (dice : List (Hist α)) (hd : DiceOK le dice)
    (hne : dice ≠ []) :
    ∃ L, rollsWithCounts le dice [] = .ok L ∧ (L.map Prod.snd).sum = (dice.map total).prod := by
  obtain ⟨L, hL, hF⟩ := rollsWithCounts_nil_wsum hle dice hd
  refine ⟨L, hL, ?_⟩
  show total L = _
  rw [total_eq_wsum, hF, if_neg hne, wsum_poolTuples_one]

/-- counts of `p.rolls_with_counts(*which)` sum to `p.total` for every non-empty selection -/
theorem C02_counts_sum_selection (hle : TotalOrderB le) (dice : List (Hist α)) (hd : DiceOK le dice)
    (s : Sel) (ss : List Sel) (idxs : List Nat) (hres : resolve dice.length (s :: ss) = .ok idxs)
    (hi : idxs ≠ []) (hne : dice ≠ []) :
    ∃ L, rollsWithCounts le dice (s :: ss) = .ok L ∧ (L.map Prod.snd).sum = (dice.map total).prod := by
  obtain ⟨L, hL, hF⟩ := rollsWithCounts_cons_wsum hle dice hd s ss idxs hres
  refine ⟨L, hL, ?_⟩
  show total L = _
  rw [total_eq_wsum, hF, if_neg (not_or.mpr ⟨hi, hne⟩), wsum_poolTuples_one]

/-! ### non-vacuity: a concrete heterogeneous pool with zero-count faces meets the hypotheses -/

def exLe (a b : Int) : Bool := decide (a ≤ b)

theorem exLe_total : TotalOrderB exLe := leZ_total

example : DiceOK exLe [[(1, 1), (2, 0), (3, 2)], [(1, 2), (3, 4)]] := by
  intro h hh
  simp only [List.mem_cons, List.not_mem_nil, or_false] at hh
  rcases hh with rfl | rfl <;> decide

example : (rollsWithCounts exLe [[(1, 1), (2, 0), (3, 2)], [(1, 2), (3, 4)]] [Sel.idx (-1)]).toOption.map
    (fun L => (L.map Prod.snd).sum) = some 18 := by decide

end Dyce
