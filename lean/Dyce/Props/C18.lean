import Dyce.HistOpsProofs
import Dyce.EqProofs
/-!
# C18 — Deck-style draws and count bookkeeping are exact

> h.draw(x) returns h with exactly the requested outcomes' counts reduced (by one per listed
> occurrence, or by the mapped amount, negative amounts adding cards), keeps every original outcome
> including those that reach zero, never produces a negative count (raising ValueError instead) and
> changes the total by exactly the net number drawn; h.draw() removes exactly one card of an outcome
> that h.roll() can return. accumulate adds counts outcome-wise (total = sum of totals), zero_fill
> adds only zero-count outcomes and never alters a distribution, and remove deletes exactly the
> named outcome.

`req` is the `Counter` of the request (distinct keys): an iterable contributes one per occurrence,
a mapping its amounts (possibly zero or negative).

| clause | theorem |
|---|---|
| counts reduced exactly, others unchanged | `C18_draw_count` |
| total changes by the net number drawn | `C18_draw_total` |
| originals kept (also at zero) | `C18_draw_keeps_originals` |
| never negative: counts are naturals by construction; over-draw → error | `C18_draw_overdraw_rejected` |
| any sequence of draws (rejected ones leave the deck alone) conserves cards | `C18_draw_sequence` |
| `draw()` = `draw(roll())`, one card of a positive-count outcome | `C18_draw_one` (with C10 for what `roll()` can return) |
| accumulate / zero_fill / remove | `C18_accumulate_count`, `C18_accumulate_total`, `C18_zero_fill_count`, `C18_zero_fill_total`, `C18_remove_count` |
| `zero_fill` never alters a distribution: the result is the same distribution and compares `==` to the original (C05's equality) | `C18_zero_fill_same_distribution`, `C18_zero_fill_eq` |
-/
namespace Dyce

variable {α : Type} [DecidableEq α] {le : α → α → Bool}

theorem C18_draw_count (h : Hist α) (req : List (α × Int)) (hh : (h.map Prod.fst).Nodup)
    (hq : (req.map Prod.fst).Nodup) (r : Hist α) (hr : drawH le h req = .ok r) (o : α) :
    ((countOf o r : Nat) : Int) = cnt h o - reqOf req o := by
  obtain ⟨hnn, rfl⟩ := drawH_ok h req r hr
  rw [countOf_ofItems]
  have hkeys : ((drawKeys h req).map fun o => (o, (cnt h o - reqOf req o).toNat)).map Prod.fst
      = drawKeys h req := by
    rw [List.map_map]
    exact List.map_id _
  by_cases ho : o ∈ drawKeys h req
  · have hd := drawKeys_nodup h req hh hq
    rw [← hkeys] at hd
    rw [countOf_of_mem_nodup hd (List.mem_map.mpr ⟨o, ho, rfl⟩)]
    exact Int.toNat_of_nonneg (hnn o ho)
  · have h1 : o ∉ h.map Prod.fst := fun hm => ho (List.mem_append_left _ hm)
    have h2 : o ∉ req.map Prod.fst := by
      intro hm
      obtain ⟨e, he, rfl⟩ := List.mem_map.mp hm
      exact ho (mem_drawKeys_of_req h req e he)
    rw [countOf_eq_zero_of_not_key (hkeys.symm ▸ ho), cnt_eq_zero_of_not_key h o h1,
      reqOf_eq_zero_of_not_key req o h2]
    rfl

theorem C18_draw_total (h : Hist α) (req : List (α × Int)) (hh : (h.map Prod.fst).Nodup)
    (hq : (req.map Prod.fst).Nodup) (r : Hist α) (hr : drawH le h req = .ok r) :
    ((total r : Nat) : Int) = (total h : Int) - (req.map Prod.snd).sum := draw_total h req hh hq r hr

theorem C18_draw_keeps_originals (h : Hist α) (req : List (α × Int)) (r : Hist α)
    (hr : drawH le h req = .ok r) (o : α) (ho : o ∈ h.map Prod.fst) : o ∈ r.map Prod.fst := by
  obtain ⟨_, rfl⟩ := drawH_ok h req r hr
  rw [mem_keys_ofItems_iff, List.map_map]
  exact List.mem_map.mpr ⟨o, List.mem_append_left _ ho, rfl⟩

theorem C18_draw_overdraw_rejected (h : Hist α) (req : List (α × Int)) (hq : (req.map Prod.fst).Nodup)
    (e : α × Int) (he : e ∈ req) (hpos : 0 < e.2) (hover : cnt h e.1 < e.2) :
    ∃ err, drawH le h req = .error err := draw_overdraw_rejected h req hq e he hover

/-- drawing one card of an outcome with a positive count (what `h.draw()` does with the outcome
`h.roll()` returned) succeeds and removes exactly that card -/
theorem C18_draw_one (h : Hist α) (hh : (h.map Prod.fst).Nodup) (o : α) (r : Hist α)
    (hr : drawH le h [(o, 1)] = .ok r) (z : α) :
    ((countOf z r : Nat) : Int) = cnt h z - (if z = o then 1 else 0) := by
  rw [C18_draw_count h [(o, 1)] hh (List.nodup_singleton _) r hr z, reqOf,
    sum_filter_cons Prod.fst Prod.snd]
  simp only [List.filter_nil, List.map_nil, List.sum_nil, add_zero, eq_comm]

/-- **any sequence of draws**: after every sequence of requests (accepted or rejected) the deck's
total is the original total minus the net number of cards the accepted requests drew -/
theorem C18_draw_sequence (hle : TotalOrderB le) (reqs : List (List (α × Int)))
    (hq : ∀ req ∈ reqs, (req.map Prod.fst).Nodup) (h : Hist α) (hh : (h.map Prod.fst).Nodup) :
    ((total (drawSeq le h reqs).1 : Nat) : Int) = (total h : Int) - (drawSeq le h reqs).2 := by
  induction reqs generalizing h with
  | nil => exact (sub_zero _).symm
  | cons req reqs ih =>
    have hq' : ∀ r ∈ reqs, (r.map Prod.fst).Nodup := fun r hr => hq r (List.mem_cons_of_mem _ hr)
    unfold drawSeq
    cases hd : drawH le h req with
    | error e => simp only; exact ih hq' h hh
    | ok r =>
      simp only
      have hr_nodup : (r.map Prod.fst).Nodup := by
        obtain ⟨_, rfl⟩ := drawH_ok h req r hd
        exact asc_keys_nodup (asc_ofItems hle _)
      have h1 := ih hq' r hr_nodup
      have h2 := draw_total h req hh (hq req List.mem_cons_self) r hd
      rw [h1, h2, sub_sub, add_comm]

theorem C18_accumulate_count (a b : Hist α) (z : α) :
    countOf z (accumulate le a b) = countOf z a + countOf z b := wsum_accumulate a b _

theorem C18_accumulate_total (a b : Hist α) : total (accumulate le a b) = total a + total b :=
  accumulate_total a b

theorem C18_zero_fill_count (h : Hist α) (outs : List α) (z : α) :
    countOf z (zeroFill le h outs) = countOf z h := wsum_zeroFill h outs _

theorem C18_zero_fill_total (h : Hist α) (outs : List α) : total (zeroFill le h outs) = total h :=
  zeroFill_total h outs

theorem C18_zero_fill_same_distribution (h : Hist α) (outs : List α) :
    SameDist (zeroFill le h outs) h := by
  refine ⟨by rw [C18_zero_fill_total], fun z => ?_⟩
  rw [C18_zero_fill_count, C18_zero_fill_total]

theorem C18_zero_fill_eq (hle : TotalOrderB le) (h : Hist α) (ha : Asc le h) (outs : List α) :
    eqH le (zeroFill le h outs) h = true :=
  (eqH_iff_sameDist hle (asc_zeroFill hle h outs) ha).mpr
    (C18_zero_fill_same_distribution h outs)

theorem C18_remove_count (h : Hist α) (o z : α) :
    countOf z (removeH le h o) = if z = o then 0 else countOf z h := by
  unfold removeH
  by_cases hany : h.any (fun oc => oc.1 = o) = true
  · rw [if_pos hany, countOf_ofItems, countOf_filter_ne]
  · rw [if_neg hany]
    split
    · next hz =>
      refine hz ▸ countOf_eq_zero_of_not_key fun hm => ?_
      obtain ⟨e, he, heq⟩ := List.mem_map.mp hm
      exact hany (List.any_eq_true.mpr ⟨e, he, decide_eq_true heq⟩)
    · rfl

/-! non-vacuity: a concrete rejected draw -/
example : ∃ err, drawH (fun a b : Int => decide (a ≤ b)) [(1, 1), (2, 2)] [(1, 2)] = .error err :=
  draw_overdraw_rejected _ _ (by simp) (1, 2) (by simp) (by decide)

end Dyce
