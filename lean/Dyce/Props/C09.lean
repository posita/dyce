import Dyce.OrderStatProofs
import Dyce.Props.C03
import Dyce.AppearProofs
/-!
# C09 — Closed-form counting shortcuts agree with enumeration

> For any histogram h, any n >= 1 and any position pos in [-n, n), h.order_stat_for_n_at_pos(n, pos)
> has exactly the counts of (n@P(h)).h(pos); h.exactly_k_times_in_n(o, n, k) equals the count of k
> in n@(h.eq(o)); and p.appearances_in_rolls(o) equals the histogram, over all rolls of p, of how
> many dice show o. Summed over all positions the order-statistic counts of a face equal
> n*h[face]*h.total**(n-1), and repeated or interleaved calls with different n and pos on the same
> object return the same answers as first calls.

| clause | theorem |
|---|---|
| order statistic, per face: closed form = number of rolls whose `pos`-th smallest die shows `f` | `C09_order_stat_count` |
| … as a histogram (`order_stat_for_n_at_pos`) | `C09_order_stat_hist` |
| … equals `(n@P(h)).h(pos)` | `C09_order_stat_eq_pool_h` |
| `exactly_k_times_in_n` = number of rolls with exactly `k` dice showing `o` = count of `k` in `n@(h.eq(o))` | `C09_exactly_k`, `C09_exactly_k_eq_matmul` |
| sum over positions | `C09_sum_positions` |
| call order on a shared object never matters | C13 (`memo_transparent`, key = `n`) |
| `appearances_in_rolls(o)` = histogram over all rolls of how many dice show `o` | `C09_appearances` |
-/
namespace Dyce

section
variable {α : Type} [DecidableEq α] {le : α → α → Bool}

theorem C09_order_stat_count (hle : TotalOrderB le) (h : Hist α) (n : Nat) (hn : 0 < n)
    (pos : Nat) (f : α) :
    orderStatCount le h n pos f
      = wsum (tuples h n) (fun t => if (sortBy le t)[pos]? = some f then 1 else 0) :=
  orderStatCount_correct hle h n hn pos f

/-- `h.order_stat_for_n_at_pos(n, pos)` as a histogram: every face of `h` gets exactly the number
of rolls of `n` dice whose `pos`-th smallest die shows it -/
theorem C09_order_stat_hist (hle : TotalOrderB le) (h : Hist α) (hd : (h.map Prod.fst).Nodup)
    (n : Nat) (hn : 0 < n) (pos : Nat) (f : α) (hf : f ∈ h.map Prod.fst) :
    countOf f (orderStat le h n pos)
      = wsum (tuples h n) (fun t => if (sortBy le t)[pos]? = some f then 1 else 0) := by
  rw [countOf_orderStat h hd n pos f hf]
  exact orderStatCount_correct hle h n hn pos f

theorem C09_exactly_k (h : Hist α) (hd : (h.map Prod.fst).Nodup) (o : α) (n k : Nat) (hk : k ≤ n) :
    exactlyK h o n k = wsum (tuples h n) (fun t => if t.count o = k then 1 else 0) :=
  exactlyK_correct h o n k hk

/-- `p.appearances_in_rolls(o)`: per-group binomial histograms, summed = brute force over the pool -/
theorem C09_appearances (dice : List (Hist α)) (hne : dice ≠ [])
    (hd : ∀ h ∈ dice, (h.map Prod.fst).Nodup) (o : α) (k : Nat) :
    countOf k (appearances dice o) = wsum (poolTuples dice) (fun t => if t.count o = k then 1 else 0) :=
  appearances_correct dice hne o k

/-- `exactly_k_times_in_n(o, n, k)` is the count of `k` in `n @ h.eq(o)` -/
theorem C09_exactly_k_eq_matmul (h : Hist α) (hd : (h.map Prod.fst).Nodup) (o : α) (n k : Nat)
    (hn : 0 < n) (hk : k ≤ n) :
    exactlyK h o n k = countOf k (betaHist (fun x => x == o) n h) := by
  rw [exactlyK_correct h o n k hk, countOf, wsum_betaHist hn]
  -- `List.count o` is `countP (· == o)` by definition
  rfl

/-- **C09**: summed over all positions, the order-statistic counts of a face equal
`n * h[face] * h.total ** (n - 1)` -/
theorem C09_sum_positions (hle : TotalOrderB le) (h : Hist α) (n : Nat) (hn : 0 < n) (f : α) :
    ((List.range n).map fun pos => orderStatCount le h n pos f).sum
      = n * countOf f h * total h ^ (n - 1) := by
  simp only [orderStatCount_correct hle h n hn]
  rw [← wsum_list_sum (tuples h n) (List.range n)
    (fun pos t => if (sortBy le t)[pos]? = some f then 1 else 0), ← wsum_tuples_count h f n]
  exact wsum_congr fun tw htw => sum_positions_pointwise tw.1 f n (mem_tuples htw).1

end

variable {α : Type} [DecidableEq α] [AddCommMonoid α] {le : α → α → Bool}

/-- **C09**: `h.order_stat_for_n_at_pos(n, pos)` has exactly the counts of `(n@P(h)).h(pos)` -/
theorem C09_order_stat_eq_pool_h (hle : TotalOrderB le) (h : Hist α)
    (hs : h.Pairwise (fun a b => le a.1 b.1 = true ∧ a.1 ≠ b.1)) (hT : 0 < total h)
    (n : Nat) (hn : 0 < n) (pos : Nat) (hpos : pos < n) :
    ∃ H, poolH le 0 (· + ·) (fun m x => m • x) (List.replicate n h) [Sel.idx pos] = .ok H ∧
      ∀ f ∈ h.map Prod.fst, countOf f H = countOf f (orderStat le h n pos) := by
  have hd : DiceOK le (List.replicate n h) := fun d hd => List.eq_of_mem_replicate hd ▸ ⟨hs, hT⟩
  have hres : resolve (List.replicate n h).length [Sel.idx pos] = .ok [pos] :=
    resolve_idx (List.length_replicate.symm ▸ hpos)
  obtain ⟨H, hH, hc⟩ := (C03_selection hle (List.replicate n h) hd (Sel.idx pos) []).2 [pos] hres
  refine ⟨H, hH, ?_⟩
  intro f hf
  rw [hc f, C09_order_stat_hist hle h (asc_keys_nodup hs) n hn pos f hf]
  have hne : ¬ (([pos] : List Nat) = [] ∨ List.replicate n h = []) := by
    simp only [List.cons_ne_nil, List.replicate_eq_nil_iff, false_or]; exact Nat.ne_of_gt hn
  rw [if_neg hne, poolTuples_replicate]
  refine wsum_congr fun tw htw => ?_
  have hl : pos < (sortBy le tw.1).length := by rw [sortBy_length, (mem_tuples htw).1]; exact hpos
  rw [selSum_single, List.getElem?_eq_getElem hl]
  simp

end Dyce
