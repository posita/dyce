import Dyce.StatsProofs
/-!
# C16 — Distribution and summary statistics are consistent with the counts

> distribution() yields every outcome once, in ascending order, with probability exactly
> count/total (summing to exactly 1 whenever total > 0; a custom rational type receives exactly
> (count, total)), and distribution_xy() gives the same values as floats. mean() equals the sum of
> outcome*count over total and variance() equals E[X^2]-E[X]^2 (exactly for rational outcomes, to
> floating-point accuracy otherwise), stdev() is its square root, none of them changes when counts
> are scaled or zero-count outcomes are added, and for independent a and b the mean and variance of
> a+b are the sums of the operands' means and variances.

Outcomes are rationals (`ℚ`, which represents int, bool and Fraction outcomes exactly).  Float
rounding, `sqrt` (stdev) and `distribution_xy`'s conversion to float are outside the proof; the
correspondence check compares them with the exact value to 1e-9.

| clause | theorem |
|---|---|
| every outcome once, in the histogram's (ascending) order | `C16_distribution_outcomes` |
| probability exactly `count / (total or 1)` | `C16_distribution_prob` |
| probabilities sum to exactly 1 | `C16_distribution_sum` |
| mean = Σ outcome·count / total; variance = E[X²] − E[X]² | `C16_mean_def`, `C16_variance_def` |
| variance is the central second moment `Σ count·(x−mean)²/total`, hence never negative: `stdev()` — its square root — is always defined for rational outcomes | `C16_variance_central`, `C16_variance_nonneg` |
| an explicit `mu`: used as given when truthy; a falsy `mu` (`0`, like `None`) is recomputed as the mean; passing the mean itself changes nothing | `C16_variance_mu`, `C16_variance_mu_falsy`, `C16_variance_mu_mean` |
| unchanged by scaling the counts / by zero-count outcomes | `C16_mean_scale`, `C16_variance_scale`, `C16_mean_zero_pad`, `C16_variance_zero_pad` |
| additivity for independent operands | `C16_mean_add`, `C16_variance_add` |
| zero-total conventions (`total or 1`) | `C16_zero_total` |
-/
namespace Dyce
variable {α : Type}

theorem C16_distribution_outcomes (h : Hist α) : (distribution h).map Prod.fst = h.map Prod.fst := by
  unfold distribution
  simp only [List.map_map]
  exact List.map_congr_left fun _ _ => rfl

theorem C16_distribution_prob (h : Hist α) :
    (distribution h).map Prod.snd = h.map fun oc => (oc.2 : ℚ) / (tot1 h : ℚ) := by
  unfold distribution
  simp only [List.map_map]
  exact List.map_congr_left fun _ _ => rfl

theorem C16_distribution_sum (h : Hist α) (hT : 0 < total h) :
    ((distribution h).map Prod.snd).sum = 1 := by
  -- `Σ c / t = (Σ c) / t = t / t`
  rw [C16_distribution_prob, tot1, if_neg hT.ne']
  simp only [div_eq_mul_inv, List.sum_map_mul_right]
  rw [← cast_total, mul_inv_cancel₀ (Nat.cast_ne_zero.mpr hT.ne')]

theorem C16_mean_def (h : Hist ℚ) : meanH h = rsum h (fun x => x) / (tot1 h : ℚ) := rfl

theorem C16_variance_def (h : Hist ℚ) :
    varianceH h none = rsum h (fun x => x * x) / (tot1 h : ℚ) - meanH h * meanH h := rfl

theorem C16_variance_central (h : Hist ℚ) (hT : 0 < total h) :
    varianceH h none = rsum h (fun x => (x - meanH h) * (x - meanH h)) / (tot1 h : ℚ) := by
  have sq (x : ℚ) : (x - meanH h) * (x - meanH h) = x * x + (x * (-2 * meanH h) + meanH h * meanH h) := by
    ring
  show _ = ex h _
  simp only [varianceH_none, sq, ex_add, ex_mul_right, ex_const hT, ← meanH_eq]
  ring

theorem C16_variance_nonneg (h : Hist ℚ) : 0 ≤ varianceH h none := by
  by_cases hT : 0 < total h
  · rw [C16_variance_central h hT]; exact ex_nonneg h _ fun x => mul_self_nonneg _
  · have h0 : total h = 0 := Nat.eq_zero_of_not_pos hT
    simp [varianceH_none, meanH_eq, ex_of_total_zero h0]

theorem C16_variance_mu (h : Hist ℚ) (v : ℚ) (hv : v ≠ 0) :
    varianceH h (some v) = rsum h (fun x => x * x) / (tot1 h : ℚ) - v * v := by
  rw [varianceH_some, if_neg hv]; rfl

theorem C16_variance_mu_falsy (h : Hist ℚ) : varianceH h (some 0) = varianceH h none := by
  rw [varianceH_some, if_pos rfl]; rfl

theorem C16_variance_mu_mean (h : Hist ℚ) : varianceH h (some (meanH h)) = varianceH h none := by
  by_cases hv : meanH h = 0
  · rw [hv]; exact C16_variance_mu_falsy h
  · rw [C16_variance_mu h _ hv, C16_variance_def]

theorem C16_mean_scale (k : Nat) (hk : 0 < k) (h : Hist ℚ) : meanH (scaleH k h) = meanH h :=
  ex_scaleH hk h fun x => x

theorem C16_variance_scale (k : Nat) (hk : 0 < k) (h : Hist ℚ) :
    varianceH (scaleH k h) none = varianceH h none := by
  rw [varianceH_none, varianceH_none, C16_mean_scale k hk, ex_scaleH hk]

theorem C16_mean_zero_pad (a b : Hist ℚ) (x : ℚ) : meanH (a ++ (x, 0) :: b) = meanH (a ++ b) :=
  ex_zero_pad a b x fun x => x

theorem C16_variance_zero_pad (a b : Hist ℚ) (x : ℚ) :
    varianceH (a ++ (x, 0) :: b) none = varianceH (a ++ b) none := by
  rw [varianceH_none, varianceH_none, C16_mean_zero_pad, ex_zero_pad]

theorem C16_mean_add (le : ℚ → ℚ → Bool) (a b : Hist ℚ) (ha : 0 < total a) (hb : 0 < total b) :
    meanH (mapH le (· + ·) a b) = meanH a + meanH b := by
  have inner (x : ℚ) : ex b (fun y => x + y) = x + ex b fun y => y := by rw [ex_add, ex_const hb]
  simp only [meanH_eq, ex_mapH, inner, ex_add, ex_const ha]

theorem C16_variance_add (le : ℚ → ℚ → Bool) (a b : Hist ℚ) (ha : 0 < total a) (hb : 0 < total b) :
    varianceH (mapH le (· + ·) a b) none = varianceH a none + varianceH b none := by
  -- (shaped so that no `fun y => c * y` arises: simp's index eta-reduces it and misses `ex_mul_left`)
  have sq (x y : ℚ) : (x + y) * (x + y) = x * x + (y * (x * 2) + y * y) := by ring
  simp only [varianceH_none, C16_mean_add le a b ha hb, meanH_eq, ex_mapH, sq, ex_add, ex_mul_left,
    ex_mul_right, ex_const ha, ex_const hb]
  ring

/-- a histogram without positive counts has mean 0 and variance 0 (the `total or 1` convention) -/
theorem C16_zero_total (h : Hist ℚ) (h0 : total h = 0) : meanH h = 0 ∧ varianceH h none = 0 := by
  simp [varianceH_none, meanH_eq, ex_of_total_zero h0]

/-! non-vacuity -/
example : 0 < total ([(1, 2), (3, 0), (5, 1)] : Hist ℚ) := by decide

end Dyce
