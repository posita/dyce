import Dyce.HeapModel
/-!
# C15 — Histograms, pools and rollers are immutable values

> No public operation, successful or failing, changes the observable content (outcomes, their order,
> counts, total, dice and their order, sources, annotation) of any histogram, pool or roller that
> existed before it: operations return new objects, item assignment and deletion are unsupported, and
> objects constructed from other objects (H(h), H(p), P(p, ...), n@p, p[i:j], r.annotate(...)) are
> unaffected by anything done later with their inputs and vice versa.

The model states the WRITE DISCIPLINE of the code: histogram objects point to write-once mapping
cells (`H(h)` shares `h`'s cell), every public operation allocates new cells / objects or allocates
nothing (queries, rejected calls), and none overwrites.  The theorems say what follows from that
discipline; that /repo's code follows it is what the correspondence checks (full snapshots of every
pre-existing object after every operation).  **Partial**: the theorem is about the modelled
discipline, not derived from the Python source.

| clause | theorem |
|---|---|
| no operation changes the content of any pre-existing histogram / pool / roller | `C15_frame_hist`, `C15_frame_pool`, `C15_frame_roller` |
| … along any sequence of operations | `C15_frame_history` |
| `H(h)` shows the content of `h`, now and after anything done later | `C15_alias_content`, `C15_frame_history` |
| well-formedness (objects point to allocated cells) is preserved | `C15_wf_step` |
-/
namespace Dyce
open List

/-- `hp'` extends `hp`: the population only grew, every table of `hp` is an initial part of the
corresponding table of `hp'` (allocation at the end, nothing overwritten) -/
structure Heap.Ext (hp hp' : Heap) : Prop where
  cells : hp.cells <+: hp'.cells
  hs : hp.hs <+: hp'.hs
  ps : hp.ps <+: hp'.ps
  rs : hp.rs <+: hp'.rs

theorem Heap.Ext.refl (hp : Heap) : hp.Ext hp := ⟨prefix_rfl, prefix_rfl, prefix_rfl, prefix_rfl⟩

theorem Heap.Ext.trans {a b c : Heap} (h₁ : a.Ext b) (h₂ : b.Ext c) : a.Ext c :=
  ⟨h₁.cells.trans h₂.cells, h₁.hs.trans h₂.hs, h₁.ps.trans h₂.ps, h₁.rs.trans h₂.rs⟩

theorem step_alias_some (hp : Heap) (i : Nat) (o : HObj) (h : hp.hs[i]? = some o) :
    hp.step (.aliasH i) = { hp with hs := hp.hs ++ [o] } := by simp only [Heap.step, h]

theorem step_alias_none (hp : Heap) (i : Nat) (h : hp.hs[i]? = none) : hp.step (.aliasH i) = hp := by
  simp only [Heap.step, h]

/-- the write discipline: every operation only allocates -/
theorem step_ext (hp : Heap) (op : HeapOp) : hp.Ext (hp.step op) := by
  cases op with
  | newH c => exact ⟨prefix_append _ _, prefix_append _ _, prefix_rfl, prefix_rfl⟩
  | aliasH i =>
    cases h : hp.hs[i]? with
    | some o =>
      rw [step_alias_some hp i o h]
      exact ⟨prefix_rfl, prefix_append _ _, prefix_rfl, prefix_rfl⟩
    | none => rw [step_alias_none hp i h]; exact .refl hp
  | newP d => exact ⟨prefix_rfl, prefix_rfl, prefix_append _ _, prefix_rfl⟩
  | newR s a => exact ⟨prefix_rfl, prefix_rfl, prefix_rfl, prefix_append _ _⟩
  | pureOrFail => exact .refl hp

theorem run_ext (hp : Heap) (ops : List HeapOp) : hp.Ext (hp.run ops) := by
  induction ops generalizing hp with
  | nil => exact .refl hp
  | cons op ops ih => exact (step_ext hp op).trans (ih _)

/-- in any extension, an object of a well-formed heap shows the content it had -/
theorem Heap.Ext.observeH {hp hp' : Heap} (h : hp.Ext hp') (hwf : hp.WF) {i : Nat}
    (hi : i < hp.hs.length) : hp'.observeH i = hp.observeH i := by
  have hc := hwf _ (getElem_mem hi)
  simp only [Heap.observeH, prefix_iff_getElem?.mp h.hs i hi,
    prefix_iff_getElem?.mp h.cells _ hc, getElem?_eq_getElem hi, getElem?_eq_getElem hc]

theorem Heap.Ext.observeP {hp hp' : Heap} (h : hp.Ext hp') (hwf : hp.WF) {j : Nat}
    (hj : j < hp.ps.length) (hdice : ∀ d ∈ hp.ps[j], d < hp.hs.length) :
    hp'.observeP j = hp.observeP j := by
  simp only [Heap.observeP, prefix_iff_getElem?.mp h.ps j hj, getElem?_eq_getElem hj,
    Option.map_some]
  exact congrArg some (map_congr_left fun d hd => h.observeH hwf (hdice d hd))

theorem Heap.Ext.observeR {hp hp' : Heap} (h : hp.Ext hp') {k : Nat} (hk : k < hp.rs.length) :
    hp'.observeR k = hp.observeR k := by
  simp only [Heap.observeR, prefix_iff_getElem?.mp h.rs k hk, getElem?_eq_getElem hk]

theorem C15_wf_step (hp : Heap) (op : HeapOp) (hwf : hp.WF) : (hp.step op).WF := by
  cases op with
  | newH c =>
    intro o ho
    simp only [Heap.step, mem_append, mem_singleton, length_append, length_singleton] at ho ⊢
    rcases ho with ho | rfl
    · exact Nat.lt_succ_of_lt (hwf o ho)
    · exact Nat.lt_succ_self _
  | aliasH i =>
    cases h : hp.hs[i]? with
    | some o =>
      rw [step_alias_some hp i o h]
      intro o' ho'
      rcases mem_append.mp ho' with ho' | ho'
      · exact hwf o' ho'
      · rw [mem_singleton.mp ho']; exact hwf _ (mem_of_getElem? h)
    | none => rw [step_alias_none hp i h]; exact hwf
  | newP d => exact hwf
  | newR s a => exact hwf
  | pureOrFail => exact hwf

/-- **frame, histograms**: whatever the operation, a histogram object that existed before shows the
same content afterwards -/
theorem C15_frame_hist (hp : Heap) (hwf : hp.WF) (op : HeapOp) (i : Nat) (hi : i < hp.hs.length) :
    (hp.step op).observeH i = hp.observeH i :=
  (step_ext hp op).observeH hwf hi

theorem C15_frame_pool (hp : Heap) (hwf : hp.WF) (op : HeapOp) (j : Nat) (hj : j < hp.ps.length)
    (hdice : ∀ d ∈ hp.ps[j], d < hp.hs.length) :
    (hp.step op).observeP j = hp.observeP j :=
  (step_ext hp op).observeP hwf hj hdice

theorem C15_frame_roller (hp : Heap) (op : HeapOp) (k : Nat) (hk : k < hp.rs.length) :
    (hp.step op).observeR k = hp.observeR k :=
  (step_ext hp op).observeR hk

theorem run_wf (hp : Heap) (hwf : hp.WF) (ops : List HeapOp) : (hp.run ops).WF := by
  induction ops generalizing hp with
  | nil => exact hwf
  | cons op ops ih => exact ih (hp.step op) (C15_wf_step hp op hwf)

theorem run_hs_length (hp : Heap) (ops : List HeapOp) : hp.hs.length ≤ (hp.run ops).hs.length :=
  (run_ext hp ops).hs.length_le

/-- **frame, any history**: after any sequence of operations — successful or failing, on this object,
on its aliases or on anything else — a histogram object shows the content it had -/
theorem C15_frame_history (hp : Heap) (hwf : hp.WF) (ops : List HeapOp) (i : Nat) (hi : i < hp.hs.length) :
    (hp.run ops).observeH i = hp.observeH i :=
  (run_ext hp ops).observeH hwf hi

/-- `H(h)` has the content of `h` -/
theorem C15_alias_content (hp : Heap) (i : Nat) (hi : i < hp.hs.length) :
    (hp.step (.aliasH i)).observeH hp.hs.length = hp.observeH i := by
  have ho : hp.hs[i]? = some hp.hs[i] := getElem?_eq_getElem hi
  rw [step_alias_some hp i _ ho]
  simp only [Heap.observeH, List.getElem?_concat_length, ho]

/-! non-vacuity -/
example : (Heap.empty.run [.newH [(1, 1)], .aliasH 0, .newH [(2, 1)], .pureOrFail]).observeH 1 = some [(1, 1)] := by
  decide

end Dyce
