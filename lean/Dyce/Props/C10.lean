import Dyce.RollProofs
import Dyce.RollState
import Dyce.RollsWithCounts
/-!
# C10 — H.roll and P.roll sample exactly the encoded distribution

> Treating the random source as a fair chooser, h.roll() returns outcome o with probability exactly
> h[o]/h.total (never an outcome whose count is zero; 0 for an empty or zero-total histogram) and
> p.roll() returns each ascending-sorted roll with exactly the probability count/total enumerated by
> rolls_with_counts, using one independent draw per die. The generator installed as dyce.rng.RNG at
> the time of the call is the only source of randomness, so installing an equally seeded generator
> reproduces the same rolls.

`rollHist` / `rollPoolW` are `H.roll` / `P.roll` in the weighted-list monad: the list of everything
the call can return, each with the weight of the choice the library asks the generator to make
(`choices(population=outcomes, weights=counts, k=1)`).  `pickIdx` is CPython's `choices` for integer
weights (cumulative weights + bisect of `random()·total`).

| clause | theorem |
|---|---|
| fair chooser: index `i` is picked for exactly `weights[i]` of the `total` equally likely integer parts — never a zero-weight entry | `C10_choices_fair` |
| `h.roll()`: weight of `o` is `h[o]` (out of `h.total`) | `C10_hroll_distribution` |
| never a zero-count outcome; `0` for a zero-total histogram | `C10_hroll_never_zero_count`, `C10_hroll_zero_total` |
| `p.roll()`: weight of each sorted roll = its weight in the Cartesian product = its `rolls_with_counts()` count (C02) | `C10_proll_distribution`, `C10_proll_matches_rolls_with_counts` |
| one independent draw per die, in pool order | `C10_one_draw_per_die` |
| the generator's answers are the only input besides the dice: one answer per die, in pool order, the rest of the stream handed on untouched; equal answer streams reproduce the roll | `C10_stream_only_source`, `C10_stream_one_answer_per_die`, `C10_equal_streams_reproduce`, `C10_stream_answers_consumed`, `C10_stream_zero_total` (zero-total dice take no answer and roll `0`) |
| the stream view has the encoded distribution (of the `total` equally likely answers exactly `h[o]` return `o`; never a zero-count face) and agrees with the weighted-list model | `C10_stream_distribution`, `C10_stream_never_zero_count`, `C10_stream_matches_weighted`; for pools, over all `∏ total` answer sequences: `C10_stream_pool_distribution`, `C10_stream_answer_sequences` |
| that the generator consulted is the one installed as `dyce.rng.RNG` *at the time of the call* | correspondence (scripted generators swapped between calls, request log) |

Partial: fairness of the real bit generator and the floating-point product `random()*total` inside
CPython's `choices` are outside the proof.
-/
namespace Dyce

theorem C10_choices_fair (ws : List Nat) (i : Nat) (hi : i < ws.length) :
    ((List.range ws.sum).filter fun u => pickIdx ws u = i).length = ws[i] := by
  rw [length_filter_eq_sum]
  induction ws generalizing i with
  | nil => cases hi
  | cons w ws ih =>
    rw [List.sum_cons, sum_pickIdx_cons w ws fun j => if j = i then 1 else 0]
    cases i with
    | zero =>
      -- index 0 is picked by the first `w` answers only
      simp only [Nat.succ_ne_zero, if_false, if_true, Nat.mul_one, List.map_const',
        List.sum_replicate_nat, Nat.mul_zero, Nat.add_zero, List.getElem_cons_zero]
    | succ j =>
      simp only [Nat.zero_ne_add_one, if_false, Nat.mul_zero, Nat.zero_add, Nat.add_right_cancel_iff,
        List.getElem_cons_succ]
      exact ih j (Nat.lt_of_succ_lt_succ hi)

theorem C10_hroll_distribution (h : Hist Int) (hT : total h ≠ 0) (o : Int) :
    countOf o (rollHist h) = countOf o h := wsum_rollHist h hT _

theorem C10_hroll_total (h : Hist Int) (hT : total h ≠ 0) :
    wsum (rollHist h) (fun _ => 1) = total h := by
  rw [wsum_rollHist h hT, ← total_eq_wsum]

theorem C10_hroll_never_zero_count (h : Hist Int) (hT : total h ≠ 0) :
    ∀ e ∈ rollHist h, e ∈ h ∧ e.2 ≠ 0 := by
  intro e he
  unfold rollHist at he; rw [if_neg hT] at he
  simpa using List.mem_filter.mp he

theorem C10_hroll_zero_total (h : Hist Int) (hT : total h = 0) : rollHist h = [(0, 1)] :=
  rollHist_zero_total h hT

theorem C10_proll_distribution (hs : List (Hist Int)) (hpos : ∀ h ∈ hs, total h ≠ 0) (r : List Int) :
    countOf r (rollPoolW hs)
      = wsum (poolTuples hs) (fun t => if (t.mergeSort fun a b => decide (a ≤ b)) = r then 1 else 0) :=
  wsum_rollPoolW hs hpos _

/-- the probability `P.roll` gives a sorted roll is the count `rolls_with_counts()` reports for it -/
theorem C10_proll_matches_rolls_with_counts (hle : TotalOrderB (fun a b : Int => decide (a ≤ b)))
    (hs : List (Hist Int)) (hd : DiceOK (fun a b : Int => decide (a ≤ b)) hs) (hne : hs ≠ []) (r : List Int) :
    ∃ L, rollsWithCounts (fun a b : Int => decide (a ≤ b)) hs [] = .ok L ∧
      countOf (r.map some) L = countOf r (rollPoolW hs) := by
  obtain ⟨L, hL, hF⟩ := rollsWithCounts_nil_wsum hle hs hd
  refine ⟨L, hL, ?_⟩
  rw [countOf, hF, if_neg hne, C10_proll_distribution hs (fun h hh => Nat.ne_of_gt (hd h hh).2)]
  apply wsum_congr
  intro tw _
  -- the reported roll is the sorted tuple, wrapped in `some`
  rw [sortBy]
  simp only [(List.map_injective_iff.mpr (Option.some_injective Int)).eq_iff]

/-- `P.roll` asks for exactly one weighted choice per die, in pool order -/
theorem C10_one_draw_per_die (h : Hist Int) (hs : List (Hist Int)) :
    rollDiceW (h :: hs) = (do let v ← rollHist h; let r ← rollDiceW hs; pure (v :: r)) := rfl

/-! ### the generator-threading view (`Dyce/RollState.lean`) -/

/-- of the `total` equally likely generator answers exactly `h[o]` make `h.roll()` return `o` -/
theorem C10_stream_distribution (h : Hist Int) (o : Int) :
    ((List.range (total h)).filter fun u => (rollHistS h [u]).1 = o).length = countOf o h := by
  by_cases hT : total h = 0
  · rw [← faceAt_count, hT]; rfl
  · simp only [rollHistS, if_neg hT]; exact faceAt_count h o

theorem C10_stream_never_zero_count (h : Hist Int) (u : Nat) (hu : u < total h) (rest : List Nat) :
    countOf (rollHistS h (u :: rest)).1 h ≠ 0 := by
  have hT : total h ≠ 0 := Nat.ne_zero_of_lt hu
  simp only [rollHistS, if_neg hT]; exact faceAt_never_zero_count h u hu

/-- the stream view and the weighted-list model (the one run against the real code) agree -/
theorem C10_stream_matches_weighted (h : Hist Int) (hT : total h ≠ 0) (o : Int) :
    ((List.range (total h)).filter fun u => (rollHistS h [u]).1 = o).length = countOf o (rollHist h) := by
  rw [C10_stream_distribution, C10_hroll_distribution h hT]

/-- `p.roll()` reads one answer per die and hands the rest of the stream on untouched: the roll is a
function of the dice and those answers alone -/
theorem C10_stream_only_source (hs : List (Hist Int)) (hpos : ∀ h ∈ hs, total h ≠ 0)
    (pre rest : List Nat) (hlen : pre.length = hs.length) :
    rollPoolS hs (pre ++ rest) = ((rollPoolS hs pre).1, rest) := by
  simp only [rollPoolS, rollDiceS_append hs pre rest (by rw [liveDice_of_pos hpos, hlen])]

/-- the `i`-th die's face is decided by the `i`-th answer alone; the roll is the sorted tuple -/
theorem C10_stream_one_answer_per_die (hs : List (Hist Int)) (hpos : ∀ h ∈ hs, total h ≠ 0)
    (pre : List Nat) (hlen : pre.length = hs.length) :
    (rollPoolS hs pre).1
      = ((hs.zip pre).map fun hu => faceAt hu.1 hu.2).mergeSort fun a b => decide (a ≤ b) := by
  unfold rollPoolS; simp only [rollDiceS_eq_zip hs hpos pre hlen]

/-- two generators that give the same answers to the pool's draws (equally seeded) give the same
roll, whatever either would answer afterwards -/
theorem C10_equal_streams_reproduce (hs : List (Hist Int)) (hpos : ∀ h ∈ hs, total h ≠ 0)
    (pre rest₁ rest₂ : List Nat) (hlen : pre.length = hs.length) :
    (rollPoolS hs (pre ++ rest₁)).1 = (rollPoolS hs (pre ++ rest₂)).1 := by
  rw [C10_stream_only_source hs hpos pre rest₁ hlen, C10_stream_only_source hs hpos pre rest₂ hlen]

/-- **the whole distribution from the generator's side**: over all `∏ total` equally likely answer
sequences (one in-range answer per die), the number that make `p.roll()` return `r` is the weight
`P.roll` has in the weighted-list model — i.e. (by `C10_proll_matches_rolls_with_counts`) the count
`rolls_with_counts()` reports for `r` -/
theorem C10_stream_pool_distribution (hs : List (Hist Int)) (hpos : ∀ h ∈ hs, total h ≠ 0) (r : List Int) :
    ((allAnswers hs).filter fun us => (rollPoolS hs us).1 = r).length = countOf r (rollPoolW hs) := by
  rw [C10_proll_distribution hs hpos r, ← sum_rollDiceS hs hpos, length_filter_eq_sum]
  rfl

theorem C10_stream_answer_sequences (hs : List (Hist Int)) :
    (allAnswers hs).length = (hs.map total).prod := by
  induction hs with
  | nil => rfl
  | cons h hs ih =>
    -- `total h` blocks, one per answer of the first die, each as long as the answers of the rest
    simp [allAnswers, List.length_flatMap, ih]

/-- any pool, zero-total dice included: exactly one answer is taken per die with a positive total and
none for a zero-total die (which yields `0` without asking) -/
theorem C10_stream_answers_consumed (hs : List (Hist Int)) (us : List Nat)
    (hlen : (liveDice hs).length ≤ us.length) :
    (rollPoolS hs us).2 = us.drop (liveDice hs).length := by
  unfold rollPoolS; exact rollDiceS_rest hs us hlen

/-- a zero-total (or empty) histogram rolls `0` and does not consult the generator at all -/
theorem C10_stream_zero_total (h : Hist Int) (hT : total h = 0) (us : List Nat) :
    rollHistS h us = (0, us) := by
  unfold rollHistS; rw [if_pos hT]

/-! non-vacuity: 2d{1:1,2:2} with answers 2, 0 (then 7) draws faces 2, 1 in pool order and leaves 7 -/
example : rollDiceS [[(1, 1), (2, 2)], [(1, 1), (2, 2)]] [2, 0, 7] = ([2, 1], [7]) := by decide +kernel

end Dyce
