import Dyce.PoolHProofs
import Dyce.AffineProofs
/-!
# C03 — Selective pool sums `P.h(*which)` are exact, including every short-circuit

> For any pool and selection, P.h(*which) is exactly (counts, not only proportions) the histogram
> of the sum of the selected positions of the ascending-sorted roll over all rolls: P.h() is the
> sum of the dice, selecting every position m times gives m times that sum, P.h(i) is the i-th
> order statistic, and an empty selection gives the empty histogram. Equivalent selections give
> identical histograms, and relabelling all faces by an increasing affine map relabels the result
> by the same map (a decreasing map mirrors the positions).

| clause | theorem |
|---|---|
| `P.h()` = sum of the dice, exact counts | `C03_noargs` |
| `P.h(*which)`: IndexError exactly when indexing raises, empty selection → empty histogram, otherwise the brute-force count of `Σ_{j∈idxs} sorted(t)[j] = z` — through the `h() * (i // n)` short-circuit and through roll enumeration alike | `C03_selection` |
| equivalent selections (same resolved positions) | `C03_equivalent_selections` |
| permuted / regrouped identifiers (the same positions in another order) | `C03_permuted_selections` |
| relabelling all faces by an increasing affine map relabels the result by the same map (`a·s + b·m` for `m` selected positions) | `C03_affine_increasing`; decreasing maps (`a < 0`, mirrored positions `j ↦ n-1-j`): `C03_affine_decreasing` |

The outcome type is any `AddCommMonoid` with a Boolean total order (`Int`, `ℚ`, …).
-/
namespace Dyce
open List

section
variable {α : Type} [DecidableEq α] [AddCommMonoid α] {le : α → α → Bool}

theorem C03_noargs (dice : List (Hist α)) (smul : Nat → α → α) (z : α) :
    ∃ H, poolH le 0 (· + ·) smul dice [] = .ok H ∧
      countOf z H = if dice = [] then 0
        else wsum (poolTuples dice) (fun t => if t.sum = z then 1 else 0) := by
  refine ⟨sumH le 0 (· + ·) dice, rfl, ?_⟩
  rw [countOf, wsum_sumH]
  simp only [← List.sum_eq_foldl]

theorem C03_selection (hle : TotalOrderB le) (dice : List (Hist α)) (hd : DiceOK le dice)
    (s : Sel) (ss : List Sel) :
    (∀ e, resolve dice.length (s :: ss) = .error e →
        poolH le 0 (· + ·) (fun m x => m • x) dice (s :: ss) = .error e) ∧
    (∀ idxs, resolve dice.length (s :: ss) = .ok idxs →
      ∃ H, poolH le 0 (· + ·) (fun m x => m • x) dice (s :: ss) = .ok H ∧
        ∀ z, countOf z H =
          if idxs = [] ∨ dice = [] then 0
          else wsum (poolTuples dice)
            (fun t => if selSum le 0 (· + ·) idxs t = z then 1 else 0)) := by
  refine ⟨fun e he => poolH_cons_error he, fun idxs hres => ?_⟩
  have hlt := resolve_lt hres
  by_cases hs : ∃ i, analyze dice.length idxs = some i ∧ i ≠ 0 ∧ i ≥ (dice.length : Int)
  · -- the analysis says `i = n * c` with every position selected `c` times
    obtain ⟨i, hi, hshort⟩ := hs
    refine ⟨_, poolH_cons_short hres hi hshort, fun z => ?_⟩
    have hidx : idxs ≠ [] := by
      rintro rfl
      exact hshort.1 (Option.some.inj hi).symm
    obtain ⟨c, -, hic, hcnt⟩ := (analyze_sound dice.length idxs hlt i hi).2.2.2 hshort.2 hidx
    have hne : dice ≠ [] := by
      rintro rfl
      exact hidx (List.eq_nil_iff_forall_not_mem.mpr fun j hj => Nat.not_lt_zero _ (hlt j hj))
    have hdiv : (i / (dice.length : Int)).toNat = c := by
      rw [hic, Nat.cast_mul, Int.mul_ediv_cancel_left _
        (by simpa using hne : (dice.length : Int) ≠ 0), Int.toNat_natCast]
    rw [if_neg (not_or.mpr ⟨hidx, hne⟩), hdiv]
    exact wsum_smul_sumH dice hne idxs c hlt hcnt _
  · obtain ⟨L, hL, hLc⟩ := rollsWithCounts_cons_wsum hle dice hd s ss idxs hres
    obtain ⟨H, hH, hG⟩ := viaRolls_wsum 0 (· + ·) dice (s :: ss) L hL
    exact ⟨H, (poolH_cons_via hres fun i hi h => hs ⟨i, hi, h⟩).trans hH,
      fun z => (hG _).trans (hLc _)⟩

/-- selections whose resolved positions are permutations of one another (permuted or regrouped
identifiers) give histograms with identical counts -/
theorem C03_permuted_selections (hle : TotalOrderB le) (dice : List (Hist α)) (hd : DiceOK le dice)
    (s₁ : Sel) (ss₁ : List Sel) (s₂ : Sel) (ss₂ : List Sel) (idxs₁ idxs₂ : List Nat)
    (h₁ : resolve dice.length (s₁ :: ss₁) = .ok idxs₁) (h₂ : resolve dice.length (s₂ :: ss₂) = .ok idxs₂)
    (hp : idxs₁ ~ idxs₂) :
    ∃ H₁ H₂, poolH le 0 (· + ·) (fun m x => m • x) dice (s₁ :: ss₁) = .ok H₁ ∧
      poolH le 0 (· + ·) (fun m x => m • x) dice (s₂ :: ss₂) = .ok H₂ ∧
      ∀ z, countOf z H₁ = countOf z H₂ := by
  obtain ⟨H₁, e₁, c₁⟩ := (C03_selection hle dice hd s₁ ss₁).2 idxs₁ h₁
  obtain ⟨H₂, e₂, c₂⟩ := (C03_selection hle dice hd s₂ ss₂).2 idxs₂ h₂
  refine ⟨H₁, H₂, e₁, e₂, fun z => ?_⟩
  rw [c₁ z, c₂ z]
  refine if_congr (or_congr_left ?_) rfl (wsum_congr fun tw _ => by rw [selSum_perm tw.1 hp])
  rw [← List.length_eq_zero_iff, hp.length_eq, List.length_eq_zero_iff]

/-- two selections that resolve to the same positions (written differently: index, negative index,
slice, regrouped identifiers) give histograms with identical counts -/
theorem C03_equivalent_selections (hle : TotalOrderB le) (dice : List (Hist α)) (hd : DiceOK le dice)
    (s₁ : Sel) (ss₁ : List Sel) (s₂ : Sel) (ss₂ : List Sel) (idxs : List Nat)
    (h₁ : resolve dice.length (s₁ :: ss₁) = .ok idxs) (h₂ : resolve dice.length (s₂ :: ss₂) = .ok idxs) :
    ∃ H₁ H₂, poolH le 0 (· + ·) (fun m x => m • x) dice (s₁ :: ss₁) = .ok H₁ ∧
      poolH le 0 (· + ·) (fun m x => m • x) dice (s₂ :: ss₂) = .ok H₂ ∧
      ∀ z, countOf z H₁ = countOf z H₂ :=
  C03_permuted_selections hle dice hd s₁ ss₁ s₂ ss₂ idxs idxs h₁ h₂ (List.Perm.refl _)

end

/-- **increasing affine relabelling**: `P'.h(*which)` of the pool with every face `x` replaced by
`a·x + b` (`a > 0`) is `P.h(*which)` relabelled by `s ↦ a·s + b·m`, `m` = number of selected
positions — exact counts -/
theorem C03_affine_increasing (a b : Int) (ha : 0 < a) (dice : List (Hist Int)) (hd : DiceOK leZ dice)
    (s : Sel) (ss : List Sel) (idxs : List Nat) (hres : resolve dice.length (s :: ss) = .ok idxs) :
    ∃ H H', poolH leZ 0 (· + ·) (fun m x => m • x) dice (s :: ss) = .ok H ∧
      poolH leZ 0 (· + ·) (fun m x => m • x) (relabelDice (fun x => a * x + b) dice) (s :: ss) = .ok H' ∧
      ∀ z, countOf (a * z + b * idxs.length) H' = countOf z H := by
  have hlen : (relabelDice (fun x => a * x + b) dice).length = dice.length := List.length_map _
  obtain ⟨H, e, c⟩ := (C03_selection leZ_total dice hd s ss).2 idxs hres
  obtain ⟨H', e', c'⟩ := (C03_selection leZ_total _ (diceOK_relabel a b ha dice hd) s ss).2 idxs
    (hlen ▸ hres)
  refine ⟨H, H', e, e', fun z => ?_⟩
  rw [c z, c' (a * z + b * idxs.length)]
  exact if_congr (or_congr_right (by rw [relabelDice, List.map_eq_nil_iff])) rfl
    (spec_affine a b ha dice idxs (resolve_lt hres) z)

/-- **decreasing affine relabelling**: with every face `x` replaced by `a·x + b` (`a < 0`) the sorted
order of every roll is reversed, so `P'.h(*which)` is `P.h(*which')` relabelled by `s ↦ a·s + b·m`
whenever `which'` selects the mirrored positions (`j ↦ n-1-j`) — exact counts -/
theorem C03_affine_decreasing (a b : Int) (ha : a < 0) (dice : List (Hist Int)) (hd : DiceOK leZ dice)
    (s : Sel) (ss : List Sel) (s' : Sel) (ss' : List Sel) (idxs : List Nat)
    (hres : resolve dice.length (s :: ss) = .ok idxs)
    (hres' : resolve dice.length (s' :: ss') = .ok (mirror dice.length idxs)) :
    ∃ H H', poolH leZ 0 (· + ·) (fun m x => m • x) dice (s' :: ss') = .ok H ∧
      poolH leZ 0 (· + ·) (fun m x => m • x) (relabelDiceRev (fun x => a * x + b) dice) (s :: ss) = .ok H' ∧
      ∀ z, countOf (a * z + b * idxs.length) H' = countOf z H := by
  have hlen : (relabelDiceRev (fun x => a * x + b) dice).length = dice.length := List.length_map _
  obtain ⟨H, e, c⟩ := (C03_selection leZ_total dice hd s' ss').2 _ hres'
  obtain ⟨H', e', c'⟩ := (C03_selection leZ_total _ (diceOK_relabelRev a b ha dice hd) s ss).2 idxs
    (hlen ▸ hres)
  refine ⟨H, H', e, e', fun z => ?_⟩
  rw [c z, c' (a * z + b * idxs.length)]
  exact if_congr (by rw [relabelDiceRev, mirror, List.map_eq_nil_iff, List.map_eq_nil_iff]) rfl
    (spec_affine_neg a b ha dice idxs (resolve_lt hres) z)

/-! non-vacuity: the hypotheses are met by a concrete pool and selection -/
example : DiceOK (fun a b : Int => decide (a ≤ b)) [[(1, 1), (2, 1)], [(1, 2), (3, 0), (4, 1)]] := by
  intro h hh
  simp only [List.mem_cons, List.not_mem_nil, or_false] at hh
  rcases hh with rfl | rfl <;> decide
example : resolve 2 [Sel.idx (-1), Sel.slc none none (some (-1))] = .ok [1, 1, 0] := by decide

/-! non-vacuity: on 3 dice, position 0 of the negated pool is position 2 (`-1`) of the original -/
example : resolve 3 [Sel.idx 0] = .ok [0] ∧ resolve 3 [Sel.idx (-1)] = .ok (mirror 3 [0]) := by decide

end Dyce
