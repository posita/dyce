import Dyce.EqProofs
import Dyce.ShorthandProofs
/-!
# C05 — Equality, hashing, reduction and construction agree on 'same distribution'

> Two histograms compare equal exactly when they encode the same probability distribution
> (ignoring zero-count outcomes and any common multiplier of the counts), equal histograms hash
> equal, != is the negation, and a pool equals a histogram exactly when its flattened sum does.
> lowest_terms is idempotent, preserves the distribution, drops zero counts and returns positive
> counts whose gcd is 1. Building a histogram from the same multiset of outcome/count data in any
> supported form and in any order yields the identical histogram, with outcomes in ascending order,
> repeated outcomes' counts added, total equal to the sum of counts, and negative counts rejected.

`Asc le h` (outcomes strictly ascending) is the invariant every constructed histogram satisfies
(`C05_ctor_sorted`).

| clause | theorem |
|---|---|
| `==` ⇔ same distribution | `C05_eq_iff_same_distribution` |
| equal ⇒ equal hash key (the frozenset handed to `hash`) | `C05_eq_hash` |
| `!=` is the negation | `C05_ne` |
| pool vs histogram: through the flattened sum | `C05_pool_eq` (definition of the model) + `C03_noargs` |
| `lowest_terms`: idempotent / same distribution / no zero counts / gcd 1 | `C05_lowest_terms_idem`, `C05_lowest_terms_counts`, `C05_lowest_terms_total`, `C05_lowest_terms_positive`, `C05_lowest_terms_gcd` |
| construction: any order ⇒ identical histogram | `C05_ctor_perm` |
| ascending, counts added, total = Σ counts | `C05_ctor_sorted`, `C05_ctor_count`, `C05_ctor_total` |
| negative counts rejected | `C05_ctor_negative` |
| the `H(n)` shorthand: faces `1..n` (`n..-1` for negative `n`, none for 0) once each, ascending, total `|n|`, identical to the histogram built from those faces given explicitly in any order | `C05_shorthand_faces`, `C05_shorthand_sorted`, `C05_shorthand_total`, `C05_shorthand_same_as_explicit` |
-/
namespace Dyce
open List

variable {α : Type} [DecidableEq α] {le : α → α → Bool}

theorem C05_eq_iff_same_distribution (hle : TotalOrderB le) {a b : Hist α} (ha : Asc le a) (hb : Asc le b) :
    eqH le a b = true ↔ SameDist a b := eqH_iff_sameDist hle ha hb

theorem C05_eq_hash (a b : Hist α) (h : eqH le a b = true) : hashKey le a = hashKey le b :=
  of_decide_eq_true h

theorem C05_ne (a b : Hist α) : neH le a b = !eqH le a b := rfl

/-- `p == h` is decided on the pool's flattened sum -/
def poolEqH [AddCommMonoid α] (le : α → α → Bool) (dice : List (Hist α)) (b : Hist α) : Bool :=
  eqH le (sumH le 0 (· + ·) dice) b

theorem C05_pool_eq [AddCommMonoid α] (hle : TotalOrderB le) (dice : List (Hist α)) (b : Hist α)
    (hs : Asc le (sumH le 0 (· + ·) dice)) (hb : Asc le b) :
    poolEqH le dice b = true ↔ SameDist (sumH le 0 (· + ·) dice) b :=
  eqH_iff_sameDist hle hs hb

theorem C05_lowest_terms_idem (hle : TotalOrderB le) {h : Hist α} (ha : Asc le h) :
    lowestTerms le (lowestTerms le h) = lowestTerms le h := lowestTerms_idem hle ha

theorem C05_lowest_terms_counts (hle : TotalOrderB le) {h : Hist α} (ha : Asc le h) (z : α) :
    countOf z (lowestTerms le h) * ga h = countOf z h := by
  rw [lowestTerms_eq hle ha]; exact wsum_ltNF h _

theorem C05_lowest_terms_total (hle : TotalOrderB le) {h : Hist α} (ha : Asc le h) :
    total (lowestTerms le h) * ga h = total h := lowestTerms_total hle ha

theorem C05_lowest_terms_positive (hle : TotalOrderB le) {h : Hist α} (ha : Asc le h) :
    ∀ e ∈ lowestTerms le h, 0 < e.2 :=
  fun e he => Nat.pos_of_ne_zero (ltNF_ne_zero h e (lowestTerms_eq hle ha ▸ he))

theorem C05_lowest_terms_gcd (hle : TotalOrderB le) {h : Hist α} (ha : Asc le h) :
    (total h ≠ 0 → gcdList ((lowestTerms le h).map Prod.snd) = 1) ∧ (total h = 0 → lowestTerms le h = []) :=
  lowestTerms_eq hle ha ▸ ⟨gcd_ltNF h, ltNF_nil h⟩

/-- `lowest_terms` yields a histogram equal (`==`) to the original -/
theorem C05_lowest_terms_eq (hle : TotalOrderB le) {h : Hist α} (ha : Asc le h) :
    eqH le (lowestTerms le h) h = true :=
  decide_eq_true (lowestTerms_idem hle ha)

theorem C05_ctor_perm (hle : TotalOrderB le) {l₁ l₂ : List (α × Nat)} (hp : l₁ ~ l₂) :
    ofItems le l₁ = ofItems le l₂ := ofItems_perm hle hp

theorem C05_ctor_sorted (hle : TotalOrderB le) (items : List (α × Nat)) : Asc le (ofItems le items) :=
  asc_ofItems hle items

theorem C05_ctor_count (items : List (α × Nat)) (z : α) :
    countOf z (ofItems le items) = countOf z items := countOf_ofItems le items z

theorem C05_ctor_total (items : List (α × Nat)) :
    total (ofItems le items) = (items.map Prod.snd).sum := total_ofItems le items

theorem C05_ctor_negative (items : List (α × Int)) :
    ((∃ e ∈ items, e.2 < 0) → ofItemsChecked le items = .error ()) ∧
    ((∀ e ∈ items, 0 ≤ e.2) → ofItemsChecked le items = .ok (ofItems le (items.map fun oc => (oc.1, oc.2.toNat)))) := by
  unfold ofItemsChecked
  refine ⟨fun ⟨e, he, hneg⟩ => if_pos (List.any_eq_true.mpr ⟨e, he, decide_eq_true hneg⟩),
    fun hall => if_neg fun hany => ?_⟩
  obtain ⟨e, he, hneg⟩ := List.any_eq_true.mp hany
  exact Int.not_lt.mpr (hall e he) (of_decide_eq_true hneg)

theorem C05_shorthand_faces (n z : Int) (c : Nat) :
    (z, c) ∈ ofInt n ↔ c = 1 ∧ ((1 ≤ z ∧ z ≤ n) ∨ (n ≤ z ∧ z ≤ -1)) := mem_ofInt n z c

theorem C05_shorthand_sorted (n : Int) : Asc leZ (ofInt n) := asc_ofInt n

theorem C05_shorthand_total (n : Int) : total (ofInt n) = n.natAbs := total_ofInt n

theorem C05_shorthand_same_as_explicit (n : Int) {l : List (Int × Nat)} (hp : l ~ ofInt n) :
    ofItems leZ l = ofInt n := ofItems_perm_ofInt n hp

example : ofInt 3 = [(1, 1), (2, 1), (3, 1)] ∧ ofInt (-2) = [(-2, 1), (-1, 1)] ∧ ofInt 0 = [] := by decide

/-! non-vacuity: a scaled, zero-padded copy is `SameDist` -/
example : SameDist ([(1, 1), (2, 3)] : Hist Int) [(0, 0), (1, 2), (2, 6)] := by
  refine ⟨by decide, fun z => ?_⟩
  -- the totals are 4 and 8; `z` is 1, 2 or neither
  show countOf z _ * 8 = countOf z _ * 4
  by_cases h1 : 1 = z
  · subst h1; rfl
  · by_cases h2 : 2 = z
    · subst h2; rfl
    · simp only [countOf_cons, countOf_nil, ite_self, if_neg h1, if_neg h2]

end Dyce
