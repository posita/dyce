import Dyce.PoolModel
import Mathlib.Algebra.BigOperators.Group.List.Basic
import Mathlib.Tactic.Ring

/-! Algebra of weighted lists.  `wsum l f = Σ w · f b` is the one primitive: `countOf r l` is, by
definition, `wsum l` of the indicator of `r`, and `total l = wsum l 1` (`total_eq_wsum`).  A fact
proved for `wsum` and every `f` therefore holds of counts and totals as well, and the operations of
the model are characterised once, by what they do to `wsum`. -/
namespace Dyce
open List

universe u v w
variable {β : Type u} {γ : Type v} {δ : Type w}

@[simp] theorem wsum_nil (f : β → Nat) : wsum ([] : List (β × Nat)) f = 0 := rfl

@[simp] theorem wsum_cons (b : β × Nat) (l : List (β × Nat)) (f : β → Nat) :
    wsum (b :: l) f = b.2 * f b.1 + wsum l f := by simp [wsum]

@[simp] theorem wsum_append (l₁ l₂ : List (β × Nat)) (f : β → Nat) :
    wsum (l₁ ++ l₂) f = wsum l₁ f + wsum l₂ f := by simp [wsum]

theorem wsum_congr {l : List (β × Nat)} {f g : β → Nat}
    (h : ∀ b ∈ l, f b.1 = g b.1) : wsum l f = wsum l g := by
  induction l with
  | nil => rfl
  | cons b l ih =>
    rw [wsum_cons, wsum_cons, h b List.mem_cons_self,
      ih fun b' hb' => h b' (List.mem_cons_of_mem _ hb')]

theorem wsum_perm {l₁ l₂ : List (β × Nat)} (hp : l₁ ~ l₂) (f : β → Nat) :
    wsum l₁ f = wsum l₂ f :=
  (hp.map _).sum_eq

theorem wsum_add (l : List (β × Nat)) (f g : β → Nat) :
    wsum l (fun b => f b + g b) = wsum l f + wsum l g := by
  induction l with
  | nil => rfl
  | cons b l ih => simp only [wsum_cons, ih]; ring

theorem wsum_mul_left (l : List (β × Nat)) (c : Nat) (f : β → Nat) :
    wsum l (fun b => c * f b) = c * wsum l f := by
  induction l with
  | nil => rfl
  | cons b l ih => simp only [wsum_cons, ih]; ring

theorem wsum_zero {β} (l : List (β × Nat)) : wsum l (fun _ => 0) = 0 := by
  simpa using wsum_mul_left l 0 fun _ => 0

theorem wsum_list_sum {ι} (l : List (β × Nat)) (s : List ι) (g : ι → β → Nat) :
    wsum l (fun b => (s.map fun i => g i b).sum) = (s.map fun i => wsum l (g i)).sum := by
  induction s with
  | nil => exact wsum_zero l
  | cons i s ih => simp only [List.map_cons, List.sum_cons, wsum_add, ih]

theorem wsum_swap (a : List (β × Nat)) (b : List (γ × Nat)) (F : β → γ → Nat) :
    wsum a (fun x => wsum b (fun y => F x y)) = wsum b (fun y => wsum a (fun x => F x y)) := by
  induction a with
  | nil => simp [wsum_zero]
  | cons e a ih => simp only [wsum_cons, ih, wsum_add, wsum_mul_left]

theorem wsum_le_of_le_one (l : List (β × Nat)) (f : β → Nat) (hf : ∀ b, f b ≤ 1) :
    wsum l f ≤ wsum l (fun _ => 1) := by
  induction l with
  | nil => rfl
  | cons b l ih =>
    simp only [wsum_cons]
    exact Nat.add_le_add (Nat.mul_le_mul_left _ (hf b.1)) ih

theorem wsum_eq_zero_of_one {l : List (β × Nat)} {f : β → Nat}
    (h : wsum l (fun _ => 1) = 0) : wsum l f = 0 := by
  induction l with
  | nil => rfl
  | cons b l ih =>
    simp only [wsum_cons, Nat.mul_one, Nat.add_eq_zero_iff] at h
    simp [h.1, ih h.2]

theorem wsum_filter_nonzero (l : List (β × Nat)) (F : β → Nat) :
    wsum (l.filter fun oc => oc.2 ≠ 0) F = wsum l F := by
  induction l with
  | nil => rfl
  | cons e l ih =>
    by_cases he : e.2 = 0
    · rw [List.filter_cons_of_neg (by simp [he]), ih, wsum_cons, he, Nat.zero_mul, Nat.zero_add]
    · rw [List.filter_cons_of_pos (by simp [he]), wsum_cons, wsum_cons, ih]

theorem wsum_filter_key (p : β → Prop) [DecidablePred p] (l : List (β × Nat)) (f : β → Nat) :
    wsum (l.filter fun e => p e.1) f = wsum l (fun x => if p x then f x else 0) := by
  induction l with
  | nil => rfl
  | cons e l ih =>
    by_cases hp : p e.1
    · rw [List.filter_cons_of_pos (by simpa using hp), wsum_cons, wsum_cons, ih, if_pos hp]
    · rw [List.filter_cons_of_neg (by simpa using hp), wsum_cons, ih, if_neg hp, Nat.mul_zero,
        Nat.zero_add]

theorem wsum_map_scale (l : List (β × Nat)) (g : β → γ) (c : Nat) (f : γ → Nat) :
    wsum (l.map fun tw => (g tw.1, c * tw.2)) f = c * wsum l (fun b => f (g b)) := by
  induction l with
  | nil => rfl
  | cons b l ih => simp only [List.map_cons, wsum_cons, ih]; ring

theorem wsum_map_fst (L : List (β × Nat)) (g : β → γ) (F : γ → Nat) :
    wsum (L.map fun e => (g e.1, e.2)) F = wsum L (fun b => F (g b)) := by
  simpa using wsum_map_scale L g 1 F

/-- the shape shared by `tuples`, `poolTuples`, `combos`, `mapH` and the bind of the weighted-list
monad: pair every entry of `l` with every entry of `T`, weights multiplied -/
theorem wsum_flatMap_map (l : List (β × Nat)) (T : β → List (γ × Nat)) (op : β → γ → δ)
    (f : δ → Nat) :
    wsum (l.flatMap fun x => (T x.1).map fun t => (op x.1 t.1, x.2 * t.2)) f
      = wsum l (fun x => wsum (T x) (fun t => f (op x t))) := by
  induction l with
  | nil => rfl
  | cons x l ih => simp only [List.flatMap_cons, wsum_append, wsum_cons, ih, wsum_map_scale]

theorem total_eq_wsum {α : Type} (h : Hist α) : total h = wsum h (fun _ => 1) := by
  simp [total, wsum]

theorem total_cons {α : Type} (xc : α × Nat) (h : Hist α) : total (xc :: h) = xc.2 + total h := by
  simp [total]

theorem total_eq_zero_iff {α : Type} (h : Hist α) : total h = 0 ↔ ∀ e ∈ h, e.2 = 0 := by
  rw [total, List.sum_eq_zero_iff_forall_eq_nat, List.forall_mem_map]

theorem length_filter_eq_sum {α} (p : α → Prop) [DecidablePred p] (l : List α) :
    (l.filter fun a => decide (p a)).length = (l.map fun a => if p a then 1 else 0).sum := by
  rw [List.sum_map_ite]
  simp

theorem cast_total {α : Type} {R : Type u} [AddMonoidWithOne R] (h : Hist α) :
    ((total h : Nat) : R) = (h.map fun e => (e.2 : R)).sum := by
  induction h with
  | nil => exact Nat.cast_zero
  | cons e h ih => rw [total_cons, Nat.cast_add, ih, List.map_cons, List.sum_cons]

theorem total_reverse {α : Type} (h : Hist α) : total h.reverse = total h := by
  simp [total, List.sum_reverse]

theorem total_map_fst {α β : Type} (f : α → β) (h : Hist α) :
    total (h.map fun oc => (f oc.1, oc.2)) = total h := by
  simp [total, Function.comp_def]

theorem wsum_const {α : Type} (l : Hist α) (c : Nat) : wsum l (fun _ => c) = total l * c := by
  rw [total_eq_wsum, Nat.mul_comm, ← wsum_mul_left]; simp

section countOf
variable [DecidableEq β]

@[simp] theorem countOf_nil (r : β) : countOf r ([] : List (β × Nat)) = 0 := rfl

@[simp] theorem countOf_cons (r : β) (b : β × Nat) (l : List (β × Nat)) :
    countOf r (b :: l) = (if b.1 = r then b.2 else 0) + countOf r l := by
  simp [countOf]

@[simp] theorem countOf_append (r : β) (l₁ l₂ : List (β × Nat)) :
    countOf r (l₁ ++ l₂) = countOf r l₁ + countOf r l₂ := wsum_append _ _ _

theorem countOf_perm {l₁ l₂ : List (β × Nat)} (hp : l₁ ~ l₂) (z : β) :
    countOf z l₁ = countOf z l₂ := wsum_perm hp _

theorem countOf_eq_zero_of_not_key {o : β} {h : List (β × Nat)} (ho : o ∉ h.map Prod.fst) :
    countOf o h = 0 := by
  rw [countOf, wsum_congr (g := fun _ => 0) fun e he =>
    if_neg fun heo => ho (List.mem_map.mpr ⟨e, he, heo⟩), wsum_zero]

theorem countOf_of_mem_nodup {h : List (β × Nat)} (hd : (h.map Prod.fst).Nodup) {e : β × Nat}
    (he : e ∈ h) : countOf e.1 h = e.2 := by
  induction h with
  | nil => simp at he
  | cons x h ih =>
    rw [List.map_cons, List.nodup_cons] at hd
    rw [countOf_cons]
    rcases List.mem_cons.mp he with rfl | he
    · rw [if_pos rfl, countOf_eq_zero_of_not_key hd.1, Nat.add_zero]
    · rw [if_neg fun hxe => hd.1 (List.mem_map.mpr ⟨e, he, hxe.symm⟩), ih hd.2 he, Nat.zero_add]

theorem wsum_split_face (o : β) (h : List (β × Nat)) (G : β → Nat) :
    wsum h G = wsum ((o, countOf o h) :: h.filter (·.1 ≠ o)) G := by
  induction h with
  | nil => simp [countOf]
  | cons e h ih =>
    by_cases he : e.1 = o
    · rw [countOf_cons, if_pos he, List.filter_cons_of_neg (by simpa using he)]
      simp only [wsum_cons, ih, he]; ring
    · rw [countOf_cons, if_neg he, List.filter_cons_of_pos (by simpa using he)]
      simp only [wsum_cons, ih]; ring

end countOf

theorem countOf_eq_total_filter {α : Type} [DecidableEq α] (k : α) (h : Hist α) :
    countOf k h = total (h.filter fun e => e.1 = k) := by
  rw [total_eq_wsum, wsum_filter_key (· = k)]
  rfl

theorem countOf_filter_ne {α : Type} [DecidableEq α] (h : Hist α) (o z : α) :
    countOf z (h.filter fun oc => oc.1 ≠ o) = if z = o then 0 else countOf z h := by
  have key : countOf z h
      = countOf o h * (if o = z then 1 else 0) + countOf z (h.filter fun oc => oc.1 ≠ o) :=
    (wsum_split_face o h _).trans (wsum_cons _ _ _)
  split
  · next hz =>
    subst hz
    rw [if_pos rfl, Nat.mul_one] at key
    exact Nat.left_eq_add.mp key
  · next hz =>
    rw [if_neg (Ne.symm hz), Nat.mul_zero, Nat.zero_add] at key
    exact key.symm


variable {α : Type}

theorem wsum_tuples_succ (h : Hist α) (n : Nat) (f : List α → Nat) :
    wsum (tuples h (n+1)) f = wsum h (fun x => wsum (tuples h n) (fun t => f (x :: t))) :=
  wsum_flatMap_map h (fun _ => tuples h n) List.cons f

theorem wsum_poolTuples_cons (h : Hist α) (ds : List (Hist α)) (F : List α → Nat) :
    wsum (poolTuples (h :: ds)) F
      = wsum h (fun x => wsum (poolTuples ds) (fun t => F (x :: t))) :=
  wsum_flatMap_map h (fun _ => poolTuples ds) List.cons F

theorem poolTuples_replicate (h : Hist α) (n : Nat) :
    poolTuples (List.replicate n h) = tuples h n := by
  induction n with
  | zero => rfl
  | succ n ih => simp [List.replicate_succ, poolTuples, tuples, ih]

theorem wsum_poolTuples_append (d₁ d₂ : List (Hist α)) (F : List α → Nat) :
    wsum (poolTuples (d₁ ++ d₂)) F
      = wsum (poolTuples d₁) (fun t₁ => wsum (poolTuples d₂) (fun t₂ => F (t₁ ++ t₂))) := by
  induction d₁ generalizing F with
  | nil => simp [poolTuples]
  | cons h ds ih => simp only [List.cons_append, wsum_poolTuples_cons, ih]

/-- the Cartesian product has total weight `Π totals` (`P.total`) -/
theorem wsum_poolTuples_one (dice : List (Hist α)) :
    wsum (poolTuples dice) (fun _ => 1) = (dice.map total).prod := by
  induction dice with
  | nil => rfl
  | cons h ds ih => rw [wsum_poolTuples_cons, ih, wsum_const, List.map_cons, List.prod_cons]

theorem wsum_tuples_one (h : Hist α) (n : Nat) :
    wsum (tuples h n) (fun _ => 1) = total h ^ n := by
  rw [← poolTuples_replicate, wsum_poolTuples_one, List.map_replicate, List.prod_replicate]

theorem mem_poolTuples_length {ds : List (Hist α)} {tw : List α × Nat}
    (h : tw ∈ poolTuples ds) : tw.1.length = ds.length := by
  induction ds generalizing tw with
  | nil =>
    obtain rfl := List.mem_singleton.mp h
    rfl
  | cons d ds ih =>
    simp only [poolTuples, List.mem_flatMap, List.mem_map] at h
    obtain ⟨xc, _, tw', htw', rfl⟩ := h
    rw [List.length_cons, List.length_cons, ih htw']

theorem mem_tuples {h : Hist α} {n : Nat} {tw : List α × Nat} (htw : tw ∈ tuples h n) :
    tw.1.length = n ∧ ∀ x ∈ tw.1, x ∈ h.map Prod.fst := by
  induction n generalizing tw with
  | zero =>
    obtain rfl := List.mem_singleton.mp htw
    exact ⟨rfl, fun x hx => nomatch hx⟩
  | succ n ih =>
    simp only [tuples, List.mem_flatMap, List.mem_map] at htw
    obtain ⟨xc, hxc, tw', htw', rfl⟩ := htw
    obtain ⟨hl, hm⟩ := ih htw'
    refine ⟨by rw [List.length_cons, hl], ?_⟩
    intro x hx
    simp only [List.mem_cons] at hx
    rcases hx with rfl | hx
    · exact List.mem_map_of_mem (f := Prod.fst) hxc
    · exact hm x hx

/-- the Cartesian product sees each die only through its weighted sums: if every die of `ds'`
weighs like the image under `g` of the die of `ds` in its place (relabelled, permuted, equal keys
merged, zero weights dropped), the product of `ds'` weighs like the image of the product of `ds` -/
theorem wsum_poolTuples_map {α' : Type} (g : α → α') {ds' : List (Hist α')} {ds : List (Hist α)}
    (h : List.Forall₂ (fun d' d => ∀ G, wsum d' G = wsum d (fun x => G (g x))) ds' ds)
    (F : List α' → Nat) :
    wsum (poolTuples ds') F = wsum (poolTuples ds) (fun t => F (t.map g)) := by
  induction h generalizing F with
  | nil => rfl
  | cons hd _ ih =>
    rw [wsum_poolTuples_cons, wsum_poolTuples_cons, hd]
    exact wsum_congr fun x _ => ih _

theorem wsum_tuples_map {α' : Type} (g : α → α') {h' : Hist α'} {h : Hist α}
    (hh : ∀ G, wsum h' G = wsum h (fun x => G (g x))) (n : Nat) (F : List α' → Nat) :
    wsum (tuples h' n) F = wsum (tuples h n) (fun t => F (t.map g)) := by
  induction n generalizing F with
  | zero => rfl
  | succ n ih =>
    rw [wsum_tuples_succ, wsum_tuples_succ, hh]
    exact wsum_congr fun b _ => ih _

theorem total_tuples (h : Hist α) (n : Nat) : total (tuples h n) = total h ^ n := by
  rw [total_eq_wsum, wsum_tuples_one]

/-- summed over all `n`-tuples, a sum over the dice takes each die's share `n` times, against the
`n - 1` other dice -/
theorem wsum_tuples_sum (h : Hist α) (g : α → Nat) (n : Nat) :
    wsum (tuples h n) (fun t => (t.map g).sum) = n * wsum h g * total h ^ (n - 1) := by
  induction n with
  | zero =>
    rw [Nat.zero_mul, Nat.zero_mul]
    rfl
  | succ n ih =>
    -- `Σ g (x :: t) = g x + Σ g t`; each summand is constant in `x` or in `t`
    simp only [wsum_tuples_succ, List.map_cons, List.sum_cons, wsum_add, ih, wsum_const,
      total_tuples, wsum_mul_left]
    cases n with
    | zero => simp
    | succ m =>
      rw [Nat.add_sub_cancel, Nat.add_sub_cancel]
      ring

theorem wsum_tuples_count [DecidableEq α] (h : Hist α) (f : α) (n : Nat) :
    wsum (tuples h n) (fun t => t.count f) = n * countOf f h * total h ^ (n - 1) := by
  rw [countOf, ← wsum_tuples_sum]
  simp only [List.count_eq_length_filter, ← length_filter_eq_sum, _root_.beq_eq_decide]

theorem wsum_tuples_perm {h₁ h₂ : Hist α} (hp : h₁ ~ h₂) (n : Nat) (f : List α → Nat) :
    wsum (tuples h₁ n) f = wsum (tuples h₂ n) f := by
  simpa using wsum_tuples_map id (fun G => wsum_perm hp G) n f

end Dyce
