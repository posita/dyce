import Dyce.RollerOwn

/-! C12, accounting clause: every live outcome of every source roll is accounted for in the parent
roll — kept, used (possibly through an implicit sum) as a source of a derived outcome, or the source
of a tombstone.  The parent's outcomes are looked at before `Roll.__init__` associates them:
associating loses no associated outcome from view (`reach_ownDeep`). -/
namespace Dyce

mutual
/-- the outcome itself and everything reachable through `sources` -/
def RO.reach : RO → List RO
  | .mk v srcs o => .mk v srcs o :: RO.reachList srcs
def RO.reachList : List RO → List RO
  | [] => []
  | r :: rs => r.reach ++ RO.reachList rs
end

theorem RO.mem_reach_self (ro : RO) : ro ∈ ro.reach := by
  cases ro; simp [RO.reach]

theorem RO.reachList_eq_flatMap (l : List RO) : RO.reachList l = l.flatMap RO.reach := by
  induction l with
  | nil => rfl
  | cons y l ih => simp [RO.reachList, ih]

theorem ownDeep_of_owned (ro : RO) (h : ro.owned = true) : ro.ownDeep = ro := by
  cases ro with
  | mk v srcs o =>
    simp only [RO.owned] at h
    subst h
    simp [RO.ownDeep]

theorem ownDeepList_of_owned (l : List RO) (h : ∀ ro ∈ l, ro.owned = true) : RO.ownDeepList l = l := by
  rw [ownDeepList_eq_map, List.map_congr_left fun ro hro => ownDeep_of_owned ro (h ro hro),
    List.map_id']

theorem RO.mem_reach_mk {x : RO} {v : Option Int} {srcs : List RO} {o : Bool} :
    x ∈ (RO.mk v srcs o).reach ↔ x = .mk v srcs o ∨ ∃ s ∈ srcs, x ∈ s.reach := by
  rw [RO.reach, List.mem_cons, RO.reachList_eq_flatMap, List.mem_flatMap]

/-- associating outcomes never loses an already associated outcome from view: `ownDeep` stops only at
associated outcomes, which it leaves as they are -/
theorem reach_ownDeep (o : RO) (ho : o.owned = true) : ∀ y : RO, o ∈ y.reach → o ∈ y.ownDeep.reach := by
  intro y
  induction y using RO.induct with
  | mk v srcs ow ih =>
    intro h
    unfold RO.ownDeep
    cases ow with
    | true => exact h
    | false =>
      rcases RO.mem_reach_mk.mp h with rfl | ⟨s, hs, hos⟩
      · cases ho
      · rw [if_neg Bool.false_ne_true, RO.mem_reach_mk, ownDeepList_eq_map]
        exact Or.inr ⟨s.ownDeep, List.mem_map_of_mem hs, ih s hs hos⟩

/-- every live outcome of every source roll of `rec` is reachable from the outcomes of `rec` -/
def Accounted (rec : RollRec) : Prop :=
  ∀ sr ∈ rec.sourceRolls, ∀ o ∈ sr.outcomes, o.value.isSome → o ∈ rec.outcomes.flatMap RO.reach

theorem RO.mem_reachList_of_mem {l : List RO} {x : RO} (hx : x ∈ l) : x ∈ RO.reachList l := by
  rw [RO.reachList_eq_flatMap]; exact List.mem_flatMap.mpr ⟨x, hx, x.mem_reach_self⟩

theorem RO.mem_reach_of_source (ro x : RO) (hx : x ∈ ro.sources) : x ∈ ro.reach := by
  cases ro with
  | mk v srcs o => exact List.mem_cons_of_mem _ (RO.mem_reachList_of_mem hx)

theorem RO.mem_reachList_of_source {l : List RO} {y x : RO} (hy : y ∈ l) (hx : x ∈ y.sources) :
    x ∈ RO.reachList l := by
  rw [RO.reachList_eq_flatMap]; exact List.mem_flatMap.mpr ⟨y, hy, y.mem_reach_of_source x hx⟩

theorem mem_reach_sumOperand (sr : RollRec) (o : RO) (ho : o ∈ sr.outcomes) (hv : o.value.isSome) :
    o ∈ (sumOperand sr).reach := by
  unfold sumOperand
  split
  · rename_i ro heq
    rw [heq, List.mem_singleton] at ho; subst ho
    rw [if_pos hv]; exact o.mem_reach_self
  · exact RO.mem_reach_of_source _ o ho

theorem mem_reach_chainRO (ops : List (Int → Int)) {a o : RO} (h : o ∈ a.reach) :
    o ∈ (chainRO ops a).reach := by
  induction ops generalizing a with
  | nil => exact h
  | cons f fs ih => exact ih (RO.mem_reach_mk.mpr (Or.inr ⟨a, List.mem_singleton_self a, h⟩))

/-- the parent's outcomes, before they are associated, already reach every live outcome of the
(well-owned) source rolls -/
theorem accounted_of_reach {outs : List RO} {srs : List RollRec} (hw : ∀ sr ∈ srs, sr.wellOwned = true)
    (h : ∀ sr ∈ srs, ∀ o ∈ sr.outcomes, o.value.isSome → o ∈ RO.reachList outs) :
    Accounted (mkRollDeep outs srs) := by
  intro sr hsr o ho hv
  have hown : o.owned = true := owned_of_allOwned (outcomes_allOwned (hw sr hsr) o ho)
  have hreach := h sr hsr o ho hv
  rw [RO.reachList_eq_flatMap, List.mem_flatMap] at hreach
  obtain ⟨y, hy, hoy⟩ := hreach
  rw [show (mkRollDeep outs srs).outcomes = outs.map RO.ownDeep from ownDeepList_eq_map outs]
  exact List.mem_flatMap.mpr ⟨y.ownDeep, List.mem_map_of_mem hy, reach_ownDeep o hown y hoy⟩

/-- the selection of a selection node resolves for every number of outcomes (e.g. slices), or the
node is not a selection -/
def SelResolves : RTree → Prop
  | .sel which _ => ∀ n, ∃ idxs, resolve n which = .ok idxs
  | _ => True

/-- `o` is represented among the yielded outcomes `l`: it is yielded, or (REPLACE mode) its tombstone is -/
def Shown (o : RO) (l : List RO) : Prop := o ∈ l ∨ euthanize o ∈ l

theorem Shown.append_left {o : RO} {l : List RO} (h : Shown o l) (l' : List RO) : Shown o (l ++ l') :=
  h.imp (List.mem_append_left l') (List.mem_append_left l')

theorem Shown.append_right {o : RO} {l' : List RO} (l : List RO) (h : Shown o l') : Shown o (l ++ l') :=
  h.imp (List.mem_append_right l) (List.mem_append_right l)

theorem Shown.self (o : RO) (replace : Bool) : Shown o [if replace then euthanize o else o] := by
  cases replace with
  | true => exact Or.inr (List.mem_singleton.mpr rfl)
  | false => exact Or.inl (List.mem_singleton.mpr rfl)

/-- the substitution loop accounts for every live outcome of every roll it appends -/
def ExpandAcc (res : List RO × List RollRec) : Prop :=
  ∀ sr ∈ res.2, ∀ o ∈ sr.outcomes, o.value.isSome → Shown o res.1

theorem expandW_accounts (mk : List RO → List RollRec → RollRec) (p : Int → Bool) (rollE : W RollRec)
    (replace : Bool) :
    ∀ (k : Nat) (roll : RollRec), AllW ExpandAcc (expandW mk p rollE replace k roll) := by
  intro k
  induction k with
  | zero =>
    intro roll
    rw [expandW]
    refine AllW_pure fun sr hsr o ho hv => ?_
    obtain rfl := List.mem_singleton.mp hsr
    exact Or.inl (List.mem_filter.mpr ⟨ho, hv⟩)
  | succ k ih =>
    intro roll
    rw [expandW]
    -- every live outcome of an appended roll is represented already or still to come
    refine AllW_foldl (fun rem st => ∀ sr ∈ st.2, ∀ o ∈ sr.outcomes,
        o.value.isSome → Shown o st.1 ∨ o ∈ rem) ?_ ?_
      (AllW_pure fun sr hsr o ho hv => ?_)
    · intro o₀ rem st hst
      by_cases hp : p (o₀.value.getD 0) = true
      · rw [if_pos hp]
        refine AllW_bind_any (fun er => ?_)
        refine AllW_bind (ih _) (fun sub hsub => AllW_pure fun sr hsr o ho hv => ?_)
        rcases List.mem_append.mp hsr with hsr | hsr
        · rcases hst sr hsr o ho hv with h | h
          · exact Or.inl ((h.append_left _).append_left _)
          · rcases List.mem_cons.mp h with rfl | h
            · exact Or.inl (((Shown.self o replace).append_right st.1).append_left _)
            · exact Or.inr h
        · exact Or.inl ((hsub sr hsr o ho hv).append_right _)
      · rw [if_neg hp]
        refine AllW_pure fun sr hsr o ho hv => ?_
        rcases hst sr hsr o ho hv with h | h
        · exact Or.inl (h.append_left _)
        · rcases List.mem_cons.mp h with rfl | h
          · exact Or.inl (Or.inl (List.mem_append_right _ (List.mem_singleton.mpr rfl)))
          · exact Or.inr h
    · exact fun st h sr hsr o ho hv => (h sr hsr o ho hv).resolve_right List.not_mem_nil
    · obtain rfl := List.mem_singleton.mp hsr
      exact Or.inr (List.mem_filter.mpr ⟨ho, hv⟩)

theorem rollW_accounted (t : RTree) (hsel : SelResolves t) : AllW Accounted (rollW mkRollDeep t) := by
  cases t with
  | value l =>
    have hvac : ∀ outs, Accounted (mkRollDeep outs []) := fun outs sr hsr => by cases hsr
    cases l with
    | scalar v => exact AllW_pure (hvac _)
    | hist hh => exact AllW_bind_any (fun v => AllW_pure (hvac _))
    | pool hs => exact AllW_bind_any (fun v => AllW_pure (hvac _))
  | pool srcs =>
    refine AllW_bind (rollAllW_wellOwned srcs) (fun rs hrs => AllW_pure ?_)
    exact accounted_of_reach hrs fun sr hsr o ho hv => RO.mem_reachList_of_mem (live_mem hsr ho hv)
  | rep n src =>
    refine AllW_bind (AllW_replicateW n (rollW_wellOwned src)) (fun rs hrs => AllW_pure ?_)
    exact accounted_of_reach hrs fun sr hsr o ho hv => RO.mem_reachList_of_mem (live_mem hsr ho hv)
  | bin op l r =>
    refine AllW_bind (rollW_wellOwned l) (fun rl hl => ?_)
    refine AllW_bind (rollW_wellOwned r) (fun rr hr => AllW_pure ?_)
    refine accounted_of_reach (List.forall_mem_cons.mpr ⟨hl, List.forall_mem_singleton.mpr hr⟩)
      fun sr hsr o ho hv => ?_
    have := mem_reach_sumOperand sr o ho hv
    simp only [List.mem_cons, List.not_mem_nil, or_false] at hsr
    rcases hsr with rfl | rfl <;>
      simp only [RO.reachList, RO.reach, List.append_nil, List.mem_cons, List.mem_append, this, true_or,
        or_true]
  | un op s =>
    refine AllW_bind (rollW_wellOwned s) (fun rs hs => AllW_pure ?_)
    refine accounted_of_reach (List.forall_mem_singleton.mpr hs) fun sr hsr o ho hv => ?_
    obtain rfl := List.mem_singleton.mp hsr
    simp only [RO.reachList, RO.reach, List.append_nil, List.mem_cons, mem_reach_sumOperand sr o ho hv, or_true]
  | unChain ops s =>
    refine AllW_bind (rollW_wellOwned s) (fun rs hs => AllW_pure ?_)
    refine accounted_of_reach (List.forall_mem_singleton.mpr hs) fun sr hsr o ho hv => ?_
    obtain rfl := List.mem_singleton.mp hsr
    simp only [RO.reachList, List.append_nil, mem_reach_chainRO ops (mem_reach_sumOperand sr o ho hv)]
  | filt p srcs =>
    refine AllW_bind (rollAllW_wellOwned srcs) (fun rs hrs => AllW_pure ?_)
    refine accounted_of_reach hrs fun sr hsr o ho hv => ?_
    have hlive := live_mem hsr ho hv
    by_cases hp : p (o.value.getD 0) = true
    · exact RO.mem_reachList_of_mem (List.mem_map.mpr ⟨o, hlive, if_pos hp⟩)
    · exact RO.mem_reachList_of_source (y := euthanize o) (List.mem_map.mpr ⟨o, hlive, if_neg hp⟩)
        (List.mem_singleton.mpr rfl)
  | sel which srcs =>
    refine AllW_bind (rollAllW_wellOwned srcs) (fun rs hrs => ?_)
    simp only
    obtain ⟨idxs, hidx⟩ := hsel (sortRO (liveOutcomes rs)).length
    rw [hidx]
    refine AllW_pure (accounted_of_reach hrs fun sr hsr o ho hv => ?_)
    obtain ⟨j, hj⟩ := List.mem_iff_getElem?.mp (mem_sortRO.mpr (live_mem hsr ho hv))
    by_cases hin : j ∈ idxs
    · exact RO.mem_reachList_of_mem (List.mem_append_left _ (List.mem_filterMap.mpr ⟨j, hin, hj⟩))
    · refine RO.mem_reachList_of_source (y := euthanize o) (List.mem_append_right _ ?_)
        (List.mem_singleton.mpr rfl)
      have hex : (!idxs.contains j) = true := by simpa using hin
      refine List.mem_filterMap.mpr
        ⟨j, List.mem_filter.mpr ⟨List.mem_range.mpr ?_, hex⟩, by rw [hj, Option.map_some]⟩
      exact (List.getElem?_eq_some_iff.mp hj).1
  | substMap p f md src =>
    refine AllW_bind (rollW_wellOwned src) (fun sr hsr => AllW_pure ?_)
    refine accounted_of_reach (List.forall_mem_singleton.mpr hsr) fun sr' hsr' o ho hv => ?_
    obtain rfl := List.mem_singleton.mp hsr'
    have hlive : o ∈ sr'.outcomes.filter (fun ro => ro.value.isSome) := List.mem_filter.mpr ⟨ho, hv⟩
    by_cases hm : md = 0
    · rw [if_pos hm]
      exact RO.mem_reachList_of_mem hlive
    · rw [if_neg hm]
      by_cases hp : p (o.value.getD 0) = true
      · exact RO.mem_reachList_of_source (y := .mk (some (f (o.value.getD 0))) [o] false)
          (List.mem_map.mpr ⟨o, hlive, if_pos hp⟩) (List.mem_singleton.mpr rfl)
      · exact RO.mem_reachList_of_mem (List.mem_map.mpr ⟨o, hlive, if_neg hp⟩)
  | subst p e replace md src =>
    refine AllW_bind (rollW_wellOwned src) (fun sr hsr => ?_)
    refine AllW_bind (AllW_and (expandW_wellOwned p (rollW_wellOwned e) replace md sr hsr)
      (expandW_accounts mkRollDeep p (rollW mkRollDeep e) replace md sr)) (fun res hres => AllW_pure ?_)
    refine accounted_of_reach hres.1.2 fun sr' hsr' o ho hv => ?_
    rcases hres.2 sr' hsr' o ho hv with h | h
    · exact RO.mem_reachList_of_mem h
    · exact RO.mem_reachList_of_source h (List.mem_singleton.mpr rfl)

end Dyce
