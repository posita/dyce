import Dyce.HistOpsModel
import Dyce.HistProofs
import Mathlib.Data.List.Nodup

/-! `accumulate`, `zero_fill`, `remove`, `draw` (C18).  The constructor is transparent to weighted
sums (`wsum_ofItems`), which settles the first three.  `drawH` gets one equation (`drawH_eq`); the
count law (`C18_draw_count`) is read off key by key, the total law by adding the per-key sums `cnt`
and `reqOf` over the duplicate-free key list (`sum_over_keys`). -/
namespace Dyce

variable {α : Type} [DecidableEq α] {le : α → α → Bool}

omit [DecidableEq α] in
theorem wsum_zeros (outs : List α) (f : α → Nat) : wsum (outs.map fun o => (o, 0)) f = 0 := by
  induction outs with
  | nil => rfl
  | cons o outs ih => rw [List.map_cons, wsum_cons, ih, Nat.zero_mul]

theorem wsum_accumulate (a b : Hist α) (f : α → Nat) :
    wsum (accumulate le a b) f = wsum a f + wsum b f := by
  unfold accumulate
  rw [wsum_ofItems, wsum_append]

theorem wsum_zeroFill (h : Hist α) (outs : List α) (f : α → Nat) :
    wsum (zeroFill le h outs) f = wsum h f := by
  unfold zeroFill
  rw [wsum_accumulate, wsum_ofItems, wsum_zeros, Nat.add_zero]

theorem asc_zeroFill (hle : TotalOrderB le) (h : Hist α) (outs : List α) :
    Asc le (zeroFill le h outs) := by
  unfold zeroFill accumulate
  exact asc_ofItems hle _

theorem accumulate_total (a b : Hist α) : total (accumulate le a b) = total a + total b := by
  simp only [total_eq_wsum, wsum_accumulate]

theorem zeroFill_total (h : Hist α) (outs : List α) : total (zeroFill le h outs) = total h := by
  simp only [total_eq_wsum, wsum_zeroFill]

/-- the key list `drawH` works on: the outcomes of `h`, then the requested ones not among them -/
def drawKeys (h : Hist α) (req : List (α × Int)) : List α :=
  h.map Prod.fst ++ (req.map Prod.fst).filter (fun o => !(h.any fun oc => oc.1 = o))

theorem drawKeys_nodup (h : Hist α) (req : List (α × Int)) (hh : (h.map Prod.fst).Nodup)
    (hr : (req.map Prod.fst).Nodup) : (drawKeys h req).Nodup := by
  unfold drawKeys
  rw [List.nodup_append]
  refine ⟨hh, hr.filter _, ?_⟩
  intro a ha b hb hab
  subst hab
  simp only [List.mem_filter, Bool.not_eq_true', List.any_eq_false, decide_eq_true_eq] at hb
  simp only [List.mem_map] at ha
  obtain ⟨e, he, rfl⟩ := ha
  exact hb.2 e he rfl

theorem mem_drawKeys_of_req (h : Hist α) (req : List (α × Int)) (e : α × Int) (he : e ∈ req) :
    e.1 ∈ drawKeys h req := by
  unfold drawKeys
  by_cases hin : e.1 ∈ h.map Prod.fst
  · exact List.mem_append_left _ hin
  · apply List.mem_append_right
    simp only [List.mem_filter, List.mem_map, Bool.not_eq_true', List.any_eq_false, decide_eq_true_eq]
    refine ⟨⟨e, he, rfl⟩, ?_⟩
    intro x hx hxe
    exact hin (List.mem_map.mpr ⟨x, hx, hxe⟩)

theorem cnt_eq_zero_of_not_key (h : Hist α) (o : α) (ho : o ∉ h.map Prod.fst) : cnt h o = 0 := by
  rw [cnt, countOf_eq_zero_of_not_key ho]
  rfl

theorem reqOf_eq_zero_of_not_key (req : List (α × Int)) (o : α) (ho : o ∉ req.map Prod.fst) :
    reqOf req o = 0 := by
  rw [reqOf, List.filter_eq_nil_iff.mpr fun e he => by
    simpa using fun heq => ho (List.mem_map.mpr ⟨e, he, heq⟩)]
  rfl

theorem drawH_eq (h : Hist α) (req : List (α × Int)) :
    drawH le h req =
      if (req.any fun r => decide (r.2 > 0) && decide (cnt h r.1 ≤ 0)) then .error .notInDeck
      else if ((drawKeys h req).any fun o => decide (cnt h o - reqOf req o < 0)) then
        .error .negative
      else .ok (ofItems le ((drawKeys h req).map fun o => (o, (cnt h o - reqOf req o).toNat))) := by
  unfold drawH drawKeys
  simp only [List.any_map, List.map_map]
  rfl

omit [DecidableEq α] in
/-- a guarded computation that came out `ok` passed its guard -/
theorem ok_of_ite_error {ε β : Type} {c : Prop} [Decidable c] {e : ε} {x : Except ε β} {r : β}
    (h : (if c then .error e else x) = .ok r) : ¬ c ∧ x = .ok r := by
  by_cases hc : c
  · rw [if_pos hc] at h; cases h
  · rw [if_neg hc] at h; exact ⟨hc, h⟩

theorem drawH_ok (h : Hist α) (req : List (α × Int)) (r : Hist α) (hr : drawH le h req = .ok r) :
    (∀ o ∈ drawKeys h req, 0 ≤ cnt h o - reqOf req o) ∧
    r = ofItems le ((drawKeys h req).map fun o => (o, (cnt h o - reqOf req o).toNat)) := by
  rw [drawH_eq] at hr
  obtain ⟨_, hr⟩ := ok_of_ite_error hr
  obtain ⟨hneg, hr⟩ := ok_of_ite_error hr
  exact ⟨fun o ho => Int.not_lt.mp fun hlt =>
    hneg (List.any_eq_true.mpr ⟨o, ho, decide_eq_true hlt⟩), (Except.ok.inj hr).symm⟩

theorem sum_filter_cons {β : Type} (κ : β → α) (v : β → Int) (e : β) (l : List β) (k : α) :
    (((e :: l).filter fun r => κ r = k).map v).sum
      = (if κ e = k then v e else 0) + ((l.filter fun r => κ r = k).map v).sum := by
  by_cases h : κ e = k <;>
    simp only [List.filter_cons, decide_eq_true_eq, h, if_true, if_false, List.map_cons,
      List.sum_cons, zero_add]

/-- per-key sums over a duplicate-free key list that covers all keys of `l` add up to the sum
over `l` -/
theorem sum_over_keys {β : Type} {keys : List α} (hk : keys.Nodup) (l : List β) (κ : β → α)
    (v : β → Int) (hsub : ∀ e ∈ l, κ e ∈ keys) :
    (keys.map fun k => ((l.filter fun r => κ r = k).map v).sum).sum = (l.map v).sum := by
  induction l with
  | nil => exact List.sum_map_zero
  | cons e l ih =>
    simp only [sum_filter_cons, List.sum_map_add, List.map_cons, List.sum_cons]
    -- the indicator of `κ e` sums to `v e` over a duplicate-free list containing `κ e`
    rw [ih fun x hx => hsub x (List.mem_cons_of_mem _ hx),
      List.sum_map_eq_nsmul_single (κ e) _ (fun a' ha _ => if_neg (Ne.symm ha)),
      List.count_eq_one_of_mem hk (hsub e List.mem_cons_self), one_nsmul, if_pos rfl]

theorem cnt_eq_sum_filter (h : Hist α) (k : α) :
    cnt h k = ((h.filter fun e => e.1 = k).map fun e => (e.2 : Int)).sum := by
  rw [cnt, countOf_eq_total_filter, cast_total]

/-- **C18**: the total changes by exactly the net number drawn -/
theorem draw_total (h : Hist α) (req : List (α × Int)) (hh : (h.map Prod.fst).Nodup)
    (hq : (req.map Prod.fst).Nodup) (r : Hist α) (hr : drawH le h req = .ok r) :
    ((total r : Nat) : Int) = (total h : Int) - (req.map Prod.snd).sum := by
  obtain ⟨hnn, rfl⟩ := drawH_ok h req r hr
  have hk := drawKeys_nodup h req hh hq
  have hc : ((drawKeys h req).map fun k => cnt h k).sum = (total h : Int) := by
    simp only [cnt_eq_sum_filter]
    rw [sum_over_keys hk h Prod.fst _ fun e he => List.mem_append_left _ (List.mem_map_of_mem he),
      cast_total]
  have hq' : ((drawKeys h req).map fun k => reqOf req k).sum = (req.map Prod.snd).sum :=
    sum_over_keys hk req Prod.fst Prod.snd (mem_drawKeys_of_req h req)
  -- key by key: `(cnt - req).toNat + req = cnt`
  apply eq_sub_of_add_eq
  rw [total_ofItems, ← hc, ← hq', cast_total, List.map_map, ← List.sum_map_add]
  refine congrArg List.sum (List.map_congr_left fun o ho => ?_)
  show ((cnt h o - reqOf req o).toNat : Int) + reqOf req o = cnt h o
  rw [Int.toNat_of_nonneg (hnn o ho), sub_add_cancel]

theorem reqOf_of_mem (req : List (α × Int)) (hq : (req.map Prod.fst).Nodup) (e : α × Int) (he : e ∈ req) :
    reqOf req e.1 = e.2 := by
  induction req with
  | nil => cases he
  | cons x req ih =>
    rw [List.map_cons, List.nodup_cons] at hq
    rw [reqOf, sum_filter_cons Prod.fst Prod.snd]
    rcases List.mem_cons.mp he with rfl | he
    · rw [if_pos rfl]
      exact (congrArg _ (reqOf_eq_zero_of_not_key req _ hq.1)).trans (add_zero _)
    · rw [if_neg fun hxe => hq.1 (List.mem_map.mpr ⟨e, he, hxe.symm⟩), zero_add]
      exact ih hq.2 he

theorem draw_overdraw_rejected (h : Hist α) (req : List (α × Int)) (hq : (req.map Prod.fst).Nodup)
    (e : α × Int) (he : e ∈ req) (hover : cnt h e.1 < e.2) :
    ∃ err, drawH le h req = .error err := by
  cases hd : drawH le h req with
  | error err => exact ⟨err, rfl⟩
  | ok r =>
    obtain ⟨hnn, _⟩ := drawH_ok h req r hd
    have := hnn e.1 (mem_drawKeys_of_req h req e he)
    rw [reqOf_of_mem req hq e he] at this
    exact absurd hover (Int.not_lt.mpr (Int.sub_nonneg.mp this))

end Dyce
