import Dyce.AppearModel
import Dyce.OrderStatProofs
import Dyce.Groups

/-! `P.appearances_in_rolls(outcome)`: the per-group binomial histograms, summed, count exactly the
rolls of the pool in which `outcome` shows on `k` dice. -/
namespace Dyce

variable {α : Type} [DecidableEq α]

/-- the binomial law, with the counts laid out as the histogram `appearances` builds -/
theorem wsum_binomial_group (h : Hist α) (o : α) (n : Nat) (Φ : Nat → Nat) :
    wsum ((List.range (n + 1)).map fun k => (k, exactlyK h o n k)) Φ
      = wsum (tuples h n) (fun t => Φ (t.count o)) := by
  rw [wsum_tuples_count_fn, wsum, List.map_map]
  -- a `Finset.sum` over `range` is, by definition, the `List.sum` over `List.range`
  rfl

theorem wsum_groups_appear (o : α) (gs : List (Hist α × Nat)) (F : Nat → Nat) :
    wsum (poolTuples (gs.map fun g =>
        ofItems natLe ((List.range (g.2 + 1)).map fun k => (k, exactlyK g.1 o g.2 k))))
      (fun ks => F ks.sum)
      = wsum (poolTuples (expand gs)) (fun t => F (t.count o)) := by
  induction gs generalizing F with
  | nil => rfl
  | cons g gs ih =>
    have ih' := fun k => ih (fun s => F (k + s))
    rw [List.map_cons, wsum_poolTuples_cons, wsum_ofItems]
    simp only [List.sum_cons, ih']
    rw [wsum_binomial_group, wsum_poolTuples_expand_cons]
    simp only [List.count_append]

/-- **C09**: `p.appearances_in_rolls(o)` is exactly the histogram, over all rolls of the pool, of how
many dice show `o` -/
theorem appearances_correct (dice : List (Hist α)) (hne : dice ≠ []) (o : α) (k : Nat) :
    countOf k (appearances dice o)
      = wsum (poolTuples dice) (fun t => if t.count o = k then 1 else 0) := by
  have hg : groupsOf dice ≠ [] := fun h => hne (by rw [← expand_groupsOf dice, h]; rfl)
  rw [countOf, appearances, wsum_sumH, if_neg fun h => hg (List.map_eq_nil_iff.mp h)]
  simp only [← List.sum_eq_foldl]
  rw [wsum_groups_appear o _ (fun s => if s = k then 1 else 0), expand_groupsOf]

end Dyce
