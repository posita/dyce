import Dyce.WSum
import Mathlib.Algebra.BigOperators.Group.Finset.Basic
import Mathlib.Algebra.BigOperators.Ring.Finset
import Mathlib.Data.Nat.Choose.Basic
import Mathlib.Tactic.Ring

/-! The binomial split of the `n`-tuples over a histogram by the number of dice that show one
chosen face (`wsum_tuples_cons`); `comb` is Mathlib's `choose`. -/
namespace Dyce
open Finset

theorem wsum_finset_sum {β ι} (l : List (β × Nat)) (s : Finset ι) (f : ι → β → Nat) :
    wsum l (fun b => ∑ i ∈ s, f i b) = ∑ i ∈ s, wsum l (f i) := by
  simp only [← Finset.sum_map_toList]
  exact wsum_list_sum l s.toList f

theorem wsum_flatMap_range {β} (k : Nat) (f : Nat → List (β × Nat)) (F : β → Nat) :
    wsum ((List.range k).flatMap f) F = ∑ i ∈ Finset.range k, wsum (f i) F := by
  induction k with
  | zero => rfl
  | succ k ih =>
    rw [List.range_succ, List.flatMap_append, wsum_append, ih, Finset.sum_range_succ,
      List.flatMap_singleton]

theorem comb_eq_choose (n k : Nat) : comb n k = n.choose k := by
  induction n generalizing k with
  | zero => cases k <;> simp [comb]
  | succ n ih => cases k <;> simp [comb, ih, Nat.choose_succ_succ]

/-- Pascal's rule under the sum: the first die shows the face (`c` ways, one more die showing it) or
does not (one more die among the rest); `W i j` stands for the weight with `i` dice showing the face
and `j` dice left -/
theorem binom_step (W : ℕ → ℕ → ℕ) (c n : ℕ) :
    c * ∑ i ∈ range (n + 1), n.choose i * c ^ i * W (i + 1) (n - i) +
      ∑ i ∈ range (n + 1), n.choose i * c ^ i * W i (n - i + 1) =
    ∑ i ∈ range (n + 1 + 1), (n + 1).choose i * c ^ i * W i (n + 1 - i) := by
  rw [Finset.sum_range_succ' (fun i => (n + 1).choose i * c ^ i * W i (n + 1 - i))]
  rw [Finset.sum_range_succ' (fun i => n.choose i * c ^ i * W i (n - i + 1))]
  simp only [Nat.choose_succ_succ', Nat.add_sub_add_right, Nat.add_mul, Finset.sum_add_distrib,
    Nat.choose_zero_right, Nat.pow_zero, Nat.one_mul, Nat.sub_zero, Finset.mul_sum]
  have e1 : ∀ i ∈ range (n + 1), c * (n.choose i * c ^ i * W (i + 1) (n - i))
      = n.choose i * c ^ (i + 1) * W (i + 1) (n - i) := by
    intro i _; ring
  rw [Finset.sum_congr rfl e1]
  have e2 : ∑ i ∈ range (n + 1), n.choose (i + 1) * c ^ (i + 1) * W (i + 1) (n - i)
      = ∑ i ∈ range n, n.choose (i + 1) * c ^ (i + 1) * W (i + 1) (n - (i + 1) + 1) := by
    rw [Finset.sum_range_succ]
    simp only [Nat.choose_succ_self, Nat.zero_mul, Nat.add_zero]
    refine Finset.sum_congr rfl fun i hi => ?_
    rw [Nat.sub_add_eq, Nat.sub_add_cancel (Nat.sub_pos_of_lt (Finset.mem_range.mp hi))]
  rw [e2]
  ring

/-- the binomial split, by the number of dice showing the face `m` -/
theorem wsum_tuples_cons {α : Type} [DecidableEq α] (m : α) (c : Nat) (rest : Hist α)
    (hm : ∀ xc ∈ rest, xc.1 ≠ m) (n : Nat) (φ : Nat → List α → Nat) :
    wsum (tuples ((m, c) :: rest) n) (fun t => φ (t.count m) (t.filter (· ≠ m)))
      = ∑ i ∈ range (n+1), n.choose i * c^i * wsum (tuples rest (n - i)) (φ i) := by
  induction n generalizing φ with
  | zero => simp [tuples]
  | succ n ih =>
    rw [wsum_tuples_succ]
    simp only [wsum_cons]
    have h1 : wsum (tuples ((m, c) :: rest) n)
          (fun t => φ ((m :: t).count m) ((m :: t).filter (· ≠ m)))
        = ∑ i ∈ range (n+1), n.choose i * c^i * wsum (tuples rest (n - i)) (φ (i+1)) := by
      refine (wsum_congr fun tw _ => ?_).trans (ih (fun i u => φ (i+1) u))
      rw [List.count_cons_self, List.filter_cons_of_neg (by simp)]
    have h2 : wsum rest (fun x => wsum (tuples ((m, c) :: rest) n)
          (fun t => φ ((x :: t).count m) ((x :: t).filter (· ≠ m))))
        = ∑ i ∈ range (n+1), n.choose i * c^i * wsum (tuples rest (n - i + 1)) (φ i) := by
      have : ∀ xc ∈ rest, wsum (tuples ((m, c) :: rest) n)
            (fun t => φ ((xc.1 :: t).count m) ((xc.1 :: t).filter (· ≠ m)))
          = ∑ i ∈ range (n+1), n.choose i * c^i *
              wsum (tuples rest (n - i)) (fun u => φ i (xc.1 :: u)) := by
        intro xc hxc
        have hne := hm xc hxc
        refine (wsum_congr fun tw _ => ?_).trans (ih (fun i u => φ i (xc.1 :: u)))
        rw [List.count_cons_of_ne hne, List.filter_cons_of_pos (by simpa using hne)]
      rw [wsum_congr (g := fun x => ∑ i ∈ range (n+1), n.choose i * c^i *
              wsum (tuples rest (n - i)) (fun u => φ i (x :: u))) this, wsum_finset_sum]
      refine Finset.sum_congr rfl fun i _ => ?_
      rw [wsum_mul_left, wsum_tuples_succ]
    rw [h1, h2]
    exact binom_step (fun i j => wsum (tuples rest j) (φ i)) c n

/-- weight of "exactly `i` dice show `m`", times a constant -/
theorem choose_mul_wsum_tuples_const {α : Type} (rest : Hist α) (c n i C : Nat) :
    n.choose i * c ^ i * wsum (tuples rest (n - i)) (fun _ => C)
      = headCount (c + total rest) c n i * C := by
  rw [wsum_const, total_tuples, headCount, comb_eq_choose, Nat.add_sub_cancel_left]
  ring

/-- the binomial split for any histogram and any face `o` (absent, present once or several times): split
`o` off `h` (`wsum_split_face`), then `wsum_tuples_cons` -/
theorem wsum_tuples_face {α : Type} [DecidableEq α] (h : Hist α) (o : α) (n : Nat)
    (φ : Nat → List α → Nat) :
    wsum (tuples h n) (fun t => φ (t.count o) (t.filter (· ≠ o)))
      = ∑ i ∈ range (n + 1), n.choose i * countOf o h ^ i *
          wsum (tuples (h.filter (·.1 ≠ o)) (n - i)) (φ i) := by
  have hsplit := wsum_tuples_map id (fun G => (wsum_split_face o h G).symm) n
  simp only [List.map_id] at hsplit
  rw [← hsplit, wsum_tuples_cons o _ _ (fun xc hxc => of_decide_eq_true (List.mem_filter.mp hxc).2) n φ]

end Dyce
