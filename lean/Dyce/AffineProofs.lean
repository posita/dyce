import Dyce.PoolHProofs

/-! C03, metamorphic clause: relabelling all faces by an increasing affine map `x ↦ a·x + b`
(`a > 0`) relabels the sum of any selection of `m` positions by `s ↦ a·s + b·m`; a decreasing map
(`a < 0`) reverses every sorted roll, so it does the same with the positions mirrored.  The order
enters only through `sortBy_map` (and `sortBy_flip`, `sum_read_reverse` for the mirror), the arithmetic only
through `sum_read_affine`. -/
namespace Dyce

/-- relabel every face of every die -/
def relabelDice (f : Int → Int) (dice : List (Hist Int)) : List (Hist Int) :=
  dice.map fun h => h.map fun oc => (f oc.1, oc.2)

/-- relabel every face by a decreasing map; the faces of each die are listed ascending again -/
def relabelDiceRev (f : Int → Int) (dice : List (Hist Int)) : List (Hist Int) :=
  dice.map fun h => (h.map fun oc => (f oc.1, oc.2)).reverse

/-- position `j` from the low end ↦ position `j` from the high end -/
def mirror (n : Nat) (idxs : List Nat) : List Nat := idxs.map fun j => n - 1 - j

theorem affine_le (a b : Int) (ha : 0 < a) (x y : Int) :
    leZ x y = leZ (a * x + b) (a * y + b) := by
  refine decide_eq_decide.mpr ?_
  rw [Int.add_le_add_iff_right, Int.mul_le_mul_left ha]

theorem affine_ge (a b : Int) (ha : a < 0) (x y : Int) :
    leZ y x = leZ (a * x + b) (a * y + b) := by
  refine decide_eq_decide.mpr ?_
  rw [Int.add_le_add_iff_right]
  exact ⟨fun h => Int.mul_le_mul_of_nonpos_left (Int.le_of_lt ha) h,
    fun h => Int.not_lt.mp fun hlt => Int.not_lt.mpr h (Int.mul_lt_mul_of_neg_left hlt ha)⟩

/-- reading a reversed list is reading the mirrored positions -/
theorem sum_read_reverse {α : Type} [AddCommMonoid α] {s : List α} (idxs : List Nat)
    (hlt : ∀ j ∈ idxs, j < s.length) :
    (idxs.map fun j => s.reverse[j]?.getD 0).sum
      = ((mirror s.length idxs).map fun j => s[j]?.getD 0).sum := by
  rw [mirror, List.map_map]
  congr 1
  apply List.map_congr_left
  intro j hj
  rw [Function.comp_apply, List.getElem?_reverse (hlt j hj)]

theorem sum_read_affine (a b : Int) {s : List Int} (idxs : List Nat)
    (hlt : ∀ j ∈ idxs, j < s.length) :
    (idxs.map fun j => (s.map fun x => a * x + b)[j]?.getD 0).sum
      = a * (idxs.map fun j => s[j]?.getD 0).sum + b * idxs.length := by
  -- in range, position `j` of the relabelled list reads `a * s[j] + b`; the rest is linearity
  rw [List.map_congr_left (g := fun j => a * s[j]?.getD 0 + b) fun j hj => by
    rw [List.getElem?_map, List.getElem?_eq_getElem (hlt j hj), Option.map_some, Option.getD_some,
      Option.getD_some]]
  rw [List.sum_map_add, List.sum_map_mul_left, List.map_const', List.sum_replicate, nsmul_eq_mul,
    mul_comm b]

theorem selSum_affine (a b : Int) (ha : 0 < a) (t : List Int) (idxs : List Nat)
    (hlt : ∀ j ∈ idxs, j < t.length) :
    selSum leZ 0 (· + ·) idxs (t.map fun x => a * x + b)
      = a * selSum leZ 0 (· + ·) idxs t + b * idxs.length := by
  rw [selSum_eq_sum, selSum_eq_sum, sortBy_map _ (affine_le a b ha),
    sum_read_affine a b idxs ((sortBy_length leZ t).symm ▸ hlt)]

theorem selSum_affine_neg (a b : Int) (ha : a < 0) (t : List Int) (idxs : List Nat)
    (hlt : ∀ j ∈ idxs, j < t.length) :
    selSum leZ 0 (· + ·) idxs (t.map fun x => a * x + b)
      = a * selSum leZ 0 (· + ·) (mirror t.length idxs) t + b * idxs.length := by
  have hl := sortBy_length leZ t
  rw [selSum_eq_sum, selSum_eq_sum, sortBy_map (le := fun x y => leZ y x) _ (affine_ge a b ha),
    sortBy_flip leZ_total, sum_read_affine a b idxs (by rw [List.length_reverse, hl]; exact hlt),
    sum_read_reverse idxs (hl.symm ▸ hlt), hl]

theorem ite_affine (a : Int) {c S : Int} (z : Int) (ha : a ≠ 0) :
    (if a * S + c = a * z + c then 1 else 0 : Nat) = if S = z then 1 else 0 :=
  if_congr ((Int.add_left_inj c).trans (Int.mul_eq_mul_left_iff ha)) rfl rfl

theorem spec_affine (a b : Int) (ha : 0 < a) (dice : List (Hist Int)) (idxs : List Nat)
    (hlt : ∀ j ∈ idxs, j < dice.length) (z : Int) :
    wsum (poolTuples (relabelDice (fun x => a * x + b) dice))
        (fun t => if selSum leZ 0 (· + ·) idxs t = a * z + b * idxs.length then 1 else 0)
      = wsum (poolTuples dice) (fun t => if selSum leZ 0 (· + ·) idxs t = z then 1 else 0) := by
  rw [relabelDice, wsum_poolTuples_map (fun x => a * x + b)
    (List.forall₂_map_left_iff.mpr (List.forall₂_same.mpr fun h _ => wsum_map_fst h _))]
  refine wsum_congr fun tw htw => ?_
  rw [selSum_affine a b ha tw.1 idxs (mem_poolTuples_length htw ▸ hlt)]
  exact ite_affine a z ha.ne'

theorem spec_affine_neg (a b : Int) (ha : a < 0) (dice : List (Hist Int)) (idxs : List Nat)
    (hlt : ∀ j ∈ idxs, j < dice.length) (z : Int) :
    wsum (poolTuples (relabelDiceRev (fun x => a * x + b) dice))
        (fun t => if selSum leZ 0 (· + ·) idxs t = a * z + b * idxs.length then 1 else 0)
      = wsum (poolTuples dice)
        (fun t => if selSum leZ 0 (· + ·) (mirror dice.length idxs) t = z then 1 else 0) := by
  rw [relabelDiceRev, wsum_poolTuples_map (fun x => a * x + b)
    (List.forall₂_map_left_iff.mpr (List.forall₂_same.mpr fun h _ G =>
      (wsum_perm (List.reverse_perm _) G).trans (wsum_map_fst h _ G)))]
  refine wsum_congr fun tw htw => ?_
  have hl := mem_poolTuples_length htw
  rw [selSum_affine_neg a b ha tw.1 idxs (hl ▸ hlt), hl]
  exact ite_affine a z ha.ne

theorem diceOK_relabel (a b : Int) (ha : 0 < a) (dice : List (Hist Int)) (hd : DiceOK leZ dice) :
    DiceOK leZ (relabelDice (fun x => a * x + b) dice) := by
  intro h' hh'
  obtain ⟨h, hh, rfl⟩ := List.mem_map.mp hh'
  refine ⟨?_, (total_map_fst (fun x => a * x + b) h).symm ▸ (hd h hh).2⟩
  rw [List.pairwise_map]
  exact (hd h hh).1.imp fun hxy => (leZ_lt_iff _ _).mpr
    (Int.add_lt_add_right (Int.mul_lt_mul_of_pos_left ((leZ_lt_iff _ _).mp hxy) ha) b)

theorem diceOK_relabelRev (a b : Int) (ha : a < 0) (dice : List (Hist Int))
    (hd : DiceOK leZ dice) : DiceOK leZ (relabelDiceRev (fun x => a * x + b) dice) := by
  intro h' hh'
  obtain ⟨h, hh, rfl⟩ := List.mem_map.mp hh'
  refine ⟨?_, by
    rw [total_reverse]
    exact (total_map_fst (fun x => a * x + b) h).symm ▸ (hd h hh).2⟩
  rw [List.pairwise_reverse, List.pairwise_map]
  exact (hd h hh).1.imp fun hxy => (leZ_lt_iff _ _).mpr
    (Int.add_lt_add_right (Int.mul_lt_mul_of_neg_left ((leZ_lt_iff _ _).mp hxy) ha) b)

end Dyce
