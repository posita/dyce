import Dyce.Binomial
import Dyce.Sort
import Mathlib.Algebra.BigOperators.Intervals
import Mathlib.Data.Nat.Choose.Sum

/-! The enumerators of a homogeneous pool.  The count-domain Karonen recursion enumerates the `k`
lowest of the sorted `n`-tuples with their weights (`wsum_karonen`: split by the number of dice
showing the least face).  dyce's probability-domain `selCore` walks the same tree and describes the
same fractions (`selCore_karonen`); hence `wsum_rwcHomogLow` and, by reversal, `wsum_rwcHomogHigh`. -/
namespace Dyce
open List

variable {α : Type}

theorem forall₂_flatMap_same {ι β γ : Type} {R : β → γ → Prop} (l : List ι)
    {f : ι → List β} {g : ι → List γ} (h : ∀ i ∈ l, Forall₂ R (f i) (g i)) :
    Forall₂ R (l.flatMap f) (l.flatMap g) := by
  rw [flatMap_def, flatMap_def]
  exact rel_flatten (forall₂_map_left_iff.2 (forall₂_map_right_iff.2 (forall₂_same.2 h)))

theorem pos_of_headCount_ne_zero {T c n i : Nat} (hin : i < n) (hc : headCount T c n i ≠ 0) :
    0 < T - c := by
  apply Nat.pos_of_ne_zero
  intro h0
  apply hc
  rw [headCount, h0, Nat.zero_pow (Nat.sub_pos_of_lt hin), Nat.mul_zero]

/-- The entry `(roll, num, den)` of the probability-domain recursion and the entry `(roll, cnt)`
of the count-domain recursion at the same position describe the same fraction of `N = T^n`. -/
def SameEntry (N : Nat) (e : List α × Nat × Nat) (f : List α × Nat) : Prop :=
  e.1 = f.1 ∧ 0 < e.2.2 ∧ N * e.2.1 = f.2 * e.2.2

theorem selCore_karonen (h : Hist α) (n k : Nat) (hT : 0 < total h) (hkn : k ≤ n) :
    Forall₂ (SameEntry (total h ^ n)) (selCore h n k) (karonen h n k) := by
  fun_induction selCore h n k with
  | case1 => simp [total] at hT
  | case2 m c n k =>
    rw [karonen]
    exact Forall₂.cons ⟨rfl, Nat.one_pos, rfl⟩ Forall₂.nil
  | case3 m c rest n k hne T ih =>
    rw [karonen.eq_3 _ _ _ _ _ hne, show total ((m, c) :: rest) = T from rfl]
    dsimp only
    have hTn : 0 < T ^ n := Nat.pow_pos hT
    have hTsub : T - c = total rest := Nat.add_sub_cancel_left c (total rest)
    apply rel_append
    · -- the pieces `i < k`: scale the induction hypothesis
      apply forall₂_flatMap_same
      intro i hi
      have hin : i < n := Nat.lt_of_lt_of_le (List.mem_range.mp hi) hkn
      split
      · exact Forall₂.nil
      · next hc0 =>
        have hpos : 0 < total rest := hTsub ▸ pos_of_headCount_ne_zero hin hc0
        rw [forall₂_map_left_iff, forall₂_map_right_iff]
        apply (ih i hpos (Nat.sub_le_sub_right hkn i)).imp
        rintro e f ⟨h1, h2, h3⟩
        refine ⟨by rw [h1], Nat.mul_pos hTn h2, ?_⟩
        show T ^ n * (headCount T c n i * e.2.1) = comb n i * c ^ i * f.2 * (T ^ n * e.2.2)
        rw [headCount, hTsub, Nat.mul_assoc (comb n i * c ^ i), h3,
          ← Nat.mul_assoc (comb n i * c ^ i), Nat.mul_left_comm]
    · -- the remainder entry `(s / g, T^n / g)` with `g = gcd s (T^n)`
      refine Forall₂.cons ⟨rfl, Nat.div_gcd_pos_of_pos_right _ hTn, ?_⟩ Forall₂.nil
      dsimp only
      rw [← Nat.mul_div_assoc _ (Nat.gcd_dvd_left _ _),
        ← Nat.mul_div_assoc _ (Nat.gcd_dvd_right _ _), Nat.mul_comm]

/-- the probability-domain recursion followed by `T^n * num // den` is, entry for entry, the
count-domain recursion -/
theorem rwcHomogLow_eq_karonen (h : Hist α) (n k : Nat) (hT : 0 < total h) (hkn : k ≤ n) :
    rwcHomogLow n h k = karonen h n k := by
  -- `l.map f = l'` as the entrywise relation `f e = f'`
  rw [rwcHomogLow, ← List.map_id (karonen h n k), ← forall₂_eq_eq_eq, forall₂_map_left_iff,
    forall₂_map_right_iff]
  apply (selCore_karonen h n k hT hkn).imp
  rintro e f ⟨h1, h2, h3⟩
  rw [h3, Nat.mul_div_cancel _ h2, h1]
  rfl

theorem selCoreR_eq_map_reverse (xs : Hist α) (n k : Nat) :
    selCoreR xs n k = (selCore xs n k).map fun e => (e.1.reverse, e.2) := by
  fun_induction selCore xs n k with
  | case1 => rfl
  | case2 m c n k =>
    rw [selCoreR]
    simp only [map_cons, map_nil, reverse_replicate]
  | case3 m c rest n k hne T ih =>
    rw [selCoreR.eq_3 _ _ _ _ _ hne, show total ((m, c) :: rest) = T from rfl, List.map_append,
      List.map_flatMap]
    refine congrArg₂ _ (List.flatMap_congr fun i _ => ?_) ?_
    · dsimp only
      split
      · rfl
      · rw [ih i, List.map_map, List.map_map]
        apply List.map_congr_left
        intro e _
        simp only [Function.comp, reverse_append, reverse_replicate]
    · simp only [map_cons, map_nil, reverse_replicate]

theorem rwcHomogHigh_eq (h : Hist α) (n k : Nat) (hT : 0 < total h) (hkn : k ≤ n) :
    rwcHomogHigh n h k = (karonen h.reverse n k).map fun e => (e.1.reverse, e.2) := by
  have h1 := rwcHomogLow_eq_karonen h.reverse n k (by rw [total_reverse]; exact hT) hkn
  unfold rwcHomogLow at h1
  unfold rwcHomogHigh
  rw [selCoreR_eq_map_reverse, ← h1, List.map_map, List.map_map, total_reverse]
  rfl

theorem take_replicate_append_le (m : α) {s : List α} {i k : Nat} (h : i ≤ k) :
    (List.replicate i m ++ s).take k = List.replicate i m ++ s.take (k - i) := by
  rw [List.take_append, List.length_replicate, List.take_replicate, Nat.min_eq_right h]

theorem take_replicate_append_ge (m : α) {s : List α} {i k : Nat} (h : k ≤ i) :
    (List.replicate i m ++ s).take k = List.replicate k m := by
  rw [List.take_append, List.length_replicate, List.take_replicate, Nat.min_eq_left h]
  simp [Nat.sub_eq_zero_of_le h]

theorem sum_headCount (c T' n : Nat) :
    ∑ i ∈ Finset.range (n+1), headCount (c + T') c n i = (c + T') ^ n := by
  rw [add_pow]
  refine Finset.sum_congr rfl fun i _ => ?_
  simp only [headCount, comb_eq_choose, Nat.add_sub_cancel_left, Nat.cast_id]
  ring

/-- with no faces left only the term with all `n` dice used up survives -/
theorem sum_wsum_tuples_nil (n : Nat) (a : Nat → Nat) (G : Nat → List α → Nat) :
    ∑ i ∈ Finset.range (n + 1), a i * wsum (tuples ([] : Hist α) (n - i)) (G i) = a n * G n [] := by
  rw [Finset.sum_range_succ, Finset.sum_eq_zero, Nat.sub_self]
  · simp [tuples]
  · intro i hi
    obtain ⟨j, hj⟩ := Nat.exists_eq_add_one_of_ne_zero
      (Nat.sub_ne_zero_of_lt (Finset.mem_range.mp hi))
    rw [hj, tuples, List.flatMap_nil, wsum_nil, mul_zero]

/-- a branch of the recursion that is skipped when `hc = 0`, provided its true weight is then 0 -/
theorem wsum_pruned_piece {β γ} {hc a X : Nat} {K : List (β × Nat)} (g : β → γ) (F : γ → Nat)
    (hK : wsum K (fun b => F (g b)) = X) (h0 : hc = 0 → a * X = 0) :
    wsum (if hc = 0 then [] else K.map fun tw => (g tw.1, a * tw.2)) F = a * X := by
  split
  · rw [wsum_nil, h0 ‹_›]
  · rw [wsum_map_scale, hK]

/-- the pruned branches (`headCount = 0`) have true weight zero -/
theorem comb_mul_wsum_tuples_eq_zero {rest : Hist α} (c n i : Nat) {G : List α → Nat}
    (h : headCount (c + total rest) c n i = 0) :
    comb n i * c ^ i * wsum (tuples rest (n - i)) G = 0 := by
  rw [headCount, Nat.add_sub_cancel_left] at h
  rcases Nat.mul_eq_zero.mp h with h | h
  · rw [h, zero_mul]
  · rw [wsum_eq_zero_of_one ((wsum_tuples_one _ _).trans h), mul_zero]

/-- the remainder entry of the recursion is the weight of "at least `k` dice show `m`" -/
theorem sum_Ico_headCount (c T' n k : Nat) (hk : k ≤ n + 1) :
    ∑ i ∈ Finset.Ico k (n + 1), headCount (c + T') c n i
      = (c + T') ^ n - ((List.range k).map (headCount (c + T') c n)).sum := by
  rw [← sum_headCount c T' n, ← Finset.sum_range_add_sum_Ico _ hk]
  exact (Nat.add_sub_cancel_left ..).symm

variable [DecidableEq α] {le : α → α → Bool}

/-- Brute-force specification: weighted number of `n`-tuples whose `k` lowest (sorted) are `r`. -/
def specLow (le : α → α → Bool) (h : Hist α) (n k : Nat) (r : List α) : Nat :=
  wsum (tuples h n) (fun t => if (sortBy le t).take k = r then 1 else 0)

theorem specLow_le (le : α → α → Bool) (h : Hist α) (n k : Nat) (r : List α) :
    specLow le h n k r ≤ total h ^ n := by
  rw [← wsum_tuples_one]
  apply wsum_le_of_le_one
  intro b
  split
  · exact Nat.le_refl 1
  · exact Nat.zero_le 1

/-- the brute-force side, split by the number of dice showing the least face `m`:
`wsum_tuples_cons`, and sorting puts the `m`s first -/
theorem wsum_tuples_sorted_cons (hle : TotalOrderB le) (m : α) (c : Nat) (rest : Hist α)
    (hm : ∀ xc ∈ rest, le m xc.1 = true ∧ m ≠ xc.1) (n : Nat) (G : List α → Nat) :
    wsum (tuples ((m, c) :: rest) n) (fun t => G (sortBy le t))
      = ∑ i ∈ Finset.range (n + 1), n.choose i * c ^ i *
          wsum (tuples rest (n - i)) (fun u => G (List.replicate i m ++ sortBy le u)) := by
  rw [← wsum_tuples_cons m c rest (fun xc h e => (hm xc h).2 e.symm) n
    (fun i u => G (List.replicate i m ++ sortBy le u))]
  apply wsum_congr
  intro tw htw
  have hlb : ∀ x ∈ tw.1, le m x = true := by
    intro x hx
    have := (mem_tuples htw).2 x hx
    simp only [List.map_cons, List.mem_cons, List.mem_map] at this
    rcases this with rfl | ⟨xc, hxc, rfl⟩
    · exact hle.refl _
    · exact (hm xc hxc).1
  rw [sortBy_of_lower_bound hle m tw.1 hlb]

theorem wsum_karonen (hle : TotalOrderB le) (h : Hist α) (hs : Asc le h)
    (n k : Nat) (hkn : k ≤ n) (F : List α → Nat) :
    wsum (karonen h n k) F = wsum (tuples h n) (fun t => F ((sortBy le t).take k)) := by
  fun_induction karonen h n k generalizing F with
  | case1 n k => cases n <;> simp [tuples, sortBy]
  | case2 m c n k =>
    rw [wsum_tuples_sorted_cons hle m c [] (fun _ h => nomatch h) n (fun s => F (s.take k)),
      sum_wsum_tuples_nil n (fun i => n.choose i * c ^ i)
        (fun i u => F ((List.replicate i m ++ sortBy le u).take k))]
    -- `choose n n = 1`, sorting `[]` gives `[]`, and `take k (replicate n m) = replicate k m` as `k ≤ n`
    simp [sortBy, Nat.min_eq_left hkn]
  | case3 m c rest n k _ T ih =>
    obtain ⟨hm, hs'⟩ := List.pairwise_cons.mp hs
    rw [wsum_tuples_sorted_cons hle m c rest hm n (fun s => F (s.take k)),
      show T = c + total rest from total_cons _ _, wsum_append, wsum_flatMap_range,
      ← Finset.sum_range_add_sum_Ico _ (Nat.le_succ_of_le hkn)]
    refine congrArg₂ (· + ·) ?_ ?_
    · -- `i < k` dice show `m`: recurse on the rest
      refine Finset.sum_congr rfl fun i hi => ?_
      have hik : i < k := Finset.mem_range.mp hi
      rw [← comb_eq_choose]
      refine wsum_pruned_piece (List.replicate i m ++ ·) F ?_
        (comb_mul_wsum_tuples_eq_zero c n i)
      rw [ih i hs' (Nat.sub_le_sub_right hkn i)]
      simp only [take_replicate_append_le m hik.le]
    · -- `i ≥ k` dice show `m`: the selection is `k` copies of `m`; weight by complement
      rw [← sum_Ico_headCount c _ n k (Nat.le_succ_of_le hkn)]
      simp only [wsum_cons, wsum_nil, add_zero, Finset.sum_mul]
      refine Finset.sum_congr rfl fun i hi => ?_
      simp only [take_replicate_append_ge m (Finset.mem_Ico.mp hi).1]
      rw [choose_mul_wsum_tuples_const]

theorem karonen_correct (hle : TotalOrderB le) (h : Hist α) (hs : Asc le h)
    (n k : Nat) (hkn : k ≤ n) (r : List α) :
    countOf r (karonen h n k) = specLow le h n k r :=
  wsum_karonen hle h hs n k hkn _

theorem wsum_rwcHomogLow (hle : TotalOrderB le) (h : Hist α) (hs : Asc le h) (hT : 0 < total h)
    (n k : Nat) (hkn : k ≤ n) (F : List α → Nat) :
    wsum (rwcHomogLow n h k) F = wsum (tuples h n) (fun t => F ((sortBy le t).take k)) := by
  rw [rwcHomogLow_eq_karonen h n k hT hkn, wsum_karonen hle h hs n k hkn]

theorem wsum_rwcHomogHigh (hle : TotalOrderB le) (h : Hist α) (hs : Asc le h) (hT : 0 < total h)
    (n k : Nat) (hkn : k ≤ n) (F : List α → Nat) :
    wsum (rwcHomogHigh n h k) F
      = wsum (tuples h n) (fun t => F ((sortBy le t).drop (n - k))) := by
  have hs' : Asc (fun a b => le b a) h.reverse :=
    List.pairwise_reverse.mpr (hs.imp fun hab => ⟨hab.1, fun e => hab.2 e.symm⟩)
  rw [rwcHomogHigh_eq h n k hT hkn, wsum_map_fst, wsum_karonen hle.flip h.reverse hs' n k hkn,
    wsum_tuples_perm (List.reverse_perm h)]
  apply wsum_congr
  intro tw htw
  rw [sortBy_flip hle, List.take_reverse, List.reverse_reverse, sortBy_length,
    (mem_tuples htw).1]

end Dyce