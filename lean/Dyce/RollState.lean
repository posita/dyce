import Dyce.RollProofs
/-! C10, generator-threading view: `H.roll` / `P.roll` against an explicit stream of the answers the
installed generator gives (each answer the integer part of `random() * total`).  The stream is the
only input besides the dice, one answer is consumed per die, in pool order, and summing over the
`total` equally likely answers recovers exactly the encoded distribution (the weighted-list model
`rollHist` that the correspondence check runs against the real `H.roll`). -/
namespace Dyce

theorem faceAt_cons_lt (o : Int) (w : Nat) (h : Hist Int) (u : Nat) (hu : u < w) :
    faceAt ((o, w) :: h) u = o := by
  rw [faceAt, List.map_cons, List.map_cons, pickIdx, if_pos hu]
  rfl

theorem faceAt_cons_ge (o : Int) (w : Nat) (h : Hist Int) (k : Nat) :
    faceAt ((o, w) :: h) (w + k) = faceAt h k := by
  rw [faceAt, List.map_cons, List.map_cons, pickIdx, if_neg (Nat.not_lt.mpr (Nat.le_add_right w k)),
    Nat.add_sub_cancel_left, Nat.add_comm, List.getElem?_cons_succ]
  rfl

/-- summing any statistic of the face over the `total` equally likely answers weighs each face by
its count -/
theorem sum_faceAt (h : Hist Int) (G : Int → Nat) :
    ((List.range (total h)).map fun u => G (faceAt h u)).sum = wsum h G := by
  induction h with
  | nil => rfl
  | cons e h ih =>
    rw [total_cons, wsum_cons, ← ih]
    -- `faceAt (e :: h) u` looks the picked index up in `e.1 :: faces of h`: the two sides unfold to this
    exact sum_pickIdx_cons e.2 (h.map Prod.snd) fun i => G ((((e :: h).map Prod.fst)[i]?).getD 0)

theorem faceAt_count (h : Hist Int) (o : Int) :
    ((List.range (total h)).filter fun u => faceAt h u = o).length = countOf o h := by
  rw [length_filter_eq_sum, countOf, ← sum_faceAt]

/-- the stream view agrees with the weighted-list model that the correspondence check runs -/
theorem faceAt_count_eq_rollHist (h : Hist Int) (hT : total h ≠ 0) (o : Int) :
    ((List.range (total h)).filter fun u => faceAt h u = o).length = countOf o (rollHist h) := by
  rw [faceAt_count]; exact (wsum_rollHist h hT _).symm

theorem faceAt_never_zero_count (h : Hist Int) (u : Nat) (hu : u < total h) :
    countOf (faceAt h u) h ≠ 0 := by
  rw [← faceAt_count]
  exact Nat.ne_of_gt (List.length_pos_of_mem
    (List.mem_filter.mpr ⟨List.mem_range.mpr hu, decide_eq_true rfl⟩))

/-- dice that ask the generator at all -/
def liveDice (hs : List (Hist Int)) : List (Hist Int) := hs.filter fun h => decide (total h ≠ 0)

theorem liveDice_cons_zero {h : Hist Int} (hs : List (Hist Int)) (hT : total h = 0) :
    liveDice (h :: hs) = liveDice hs := by simp [liveDice, hT]

theorem liveDice_cons_pos {h : Hist Int} (hs : List (Hist Int)) (hT : total h ≠ 0) :
    liveDice (h :: hs) = h :: liveDice hs := by simp [liveDice, hT]

theorem liveDice_of_pos {hs : List (Hist Int)} (hpos : ∀ h ∈ hs, total h ≠ 0) : liveDice hs = hs :=
  List.filter_eq_self.mpr fun h hh => decide_eq_true (hpos h hh)

/-- with one answer per live die in `pre`, whatever follows in the stream is handed on untouched -/
theorem rollDiceS_append (hs : List (Hist Int)) (pre rest : List Nat)
    (hlen : pre.length = (liveDice hs).length) :
    rollDiceS hs (pre ++ rest) = ((rollDiceS hs pre).1, rest) := by
  induction hs generalizing pre with
  | nil =>
    obtain rfl : pre = [] := List.eq_nil_of_length_eq_zero hlen
    rfl
  | cons h hs ih =>
    by_cases hT : total h = 0
    · rw [liveDice_cons_zero hs hT] at hlen
      simp only [rollDiceS, rollHistS, if_pos hT, ih pre hlen]
    · rw [liveDice_cons_pos hs hT] at hlen
      cases pre with
      | nil => cases hlen
      | cons u pre =>
        simp only [rollDiceS, rollHistS, if_neg hT, List.cons_append, ih pre (Nat.succ.inj hlen)]

theorem rollDiceS_rest (hs : List (Hist Int)) (us : List Nat) (hlen : (liveDice hs).length ≤ us.length) :
    (rollDiceS hs us).2 = us.drop (liveDice hs).length := by
  conv_lhs => rw [← List.take_append_drop (liveDice hs).length us]
  rw [rollDiceS_append hs _ _ (List.length_take_of_le hlen)]

theorem rollDiceS_eq_zip (hs : List (Hist Int)) (hpos : ∀ h ∈ hs, total h ≠ 0)
    (pre : List Nat) (hlen : pre.length = hs.length) :
    (rollDiceS hs pre).1 = (hs.zip pre).map fun hu => faceAt hu.1 hu.2 := by
  induction hs generalizing pre with
  | nil => rfl
  | cons h hs ih =>
    cases pre with
    | nil => cases hlen
    | cons u pre =>
      have hT : total h ≠ 0 := hpos h List.mem_cons_self
      simp only [rollDiceS, rollHistS, if_neg hT, List.zip_cons_cons, List.map_cons]
      rw [ih (fun g hg => hpos g (List.mem_cons_of_mem _ hg)) pre (Nat.succ.inj hlen)]

/-- every sequence of in-range answers, one per die -/
def allAnswers : List (Hist Int) → List (List Nat)
  | [] => [[]]
  | h :: hs => (List.range (total h)).flatMap fun u => (allAnswers hs).map fun us => u :: us

theorem sum_rollDiceS (hs : List (Hist Int)) (hpos : ∀ h ∈ hs, total h ≠ 0) (F : List Int → Nat) :
    ((allAnswers hs).map fun us => F (rollDiceS hs us).1).sum = wsum (poolTuples hs) F := by
  induction hs generalizing F with
  | nil => simp [allAnswers, rollDiceS, poolTuples, wsum]
  | cons h hs ih =>
    have hT : total h ≠ 0 := hpos h List.mem_cons_self
    rw [wsum_poolTuples_cons, ← sum_faceAt]
    simp only [allAnswers]
    rw [List.map_flatMap, List.flatMap_def, List.sum_flatten, List.map_map, Function.comp_def]
    congr 1
    apply List.map_congr_left
    intro u _
    rw [← ih (fun g hg => hpos g (List.mem_cons_of_mem _ hg)), List.map_map]
    congr 1
    apply List.map_congr_left
    intro us _
    simp only [Function.comp, rollDiceS, rollHistS, if_neg hT]

end Dyce
