import Dyce.Model
import Dyce.Binomial
import Dyce.Sort
import Dyce.Karonen
import Dyce.SelectModel
import Dyce.Selection
import Dyce.PoolModel
import Dyce.Window
import Dyce.Groups
import Dyce.RollsWithCounts
import Dyce.AggProofs
import Dyce.EqProofs
import Dyce.EvalModel
import Dyce.HistModel
import Dyce.HistProofs
import Dyce.PoolHModel
import Dyce.PoolHProofs
import Dyce.OrderStatModel
import Dyce.OrderStatProofs
import Dyce.EvalSpec
import Dyce.EvalRefine
import Dyce.EvalSpecProofs
import Dyce.EvalFuel
import Dyce.Memo
import Dyce.RollerModel
import Dyce.RollerSpec
import Dyce.WRules
import Dyce.RollerProofs
import Dyce.RollerOwn
import Dyce.RollerAccount
import Dyce.RollerShape
import Dyce.Driver
import Dyce.Props.C02
import Dyce.AffineProofs
import Dyce.Props.C03
import Dyce.Props.C01
import Dyce.Props.C04
import Dyce.Props.C09
import Dyce.Props.C05
import Dyce.Props.C16
import Dyce.Props.C18
import Dyce.Props.C06
import Dyce.Props.C07
import Dyce.Props.C14
import Dyce.Props.C08
import Dyce.Props.C10
import Dyce.Props.C11
import Dyce.Props.C12
import Dyce.Props.C13
import Dyce.Props.C15
import Dyce.Props.C17
import Dyce.Props.C19
